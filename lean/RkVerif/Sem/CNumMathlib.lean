/-
Instances of `CNum` used by the property theorems (Mathlib side; never imported by a driver):
 * `CNum.ofBoundedOrder`  — any bounded linear order (floats with ±∞ without NaN, the integer types
   with their extreme values, …). Arithmetic is junk and must not be used by the theorem; `-⊤ = ⊥`.
 * `CNum.ofField top fmin` — any linearly ordered field with two parameters standing for the
   "infinity" constant and FLT_MIN; theorems state as hypotheses what they need of them
   (e.g. that the coordinates involved lie within `[-top, top]`).
 * `CNum.ofFieldT E` — the same with `sqrt`, `sin`, `cos`, `acos` and `pi` as further parameters
   (`E : Transc α`), for the transform algebra of C06.  (C07 has a fourth of this kind,
   `CNum.ofFieldX`, in Lemmas/C07.lean, with `pow` and `sqrt` as parameters.)
All are `@[reducible] def`s, activated with `attribute [local instance]` in a section or named
explicitly (`@f α (CNum.ofFieldT α E) …`).  Each is followed by the `rfl` lemmas that turn a
class operation at that instance into the order's or the field's.
-/
import Mathlib.Order.Lattice
import Mathlib.Order.BoundedOrder.Basic
import Mathlib.Order.MinMax
import Mathlib.Algebra.Order.Field.Basic
import Mathlib.Algebra.Order.AbsoluteValue.Basic
import Mathlib.Tactic.Ring
import Mathlib.Tactic.FieldSimp
import Mathlib.Tactic.Linarith
import Mathlib.Tactic.NormNum
import RkVerif.Sem.CNum

namespace RkVerif

@[reducible] def CNum.ofBoundedOrder (α : Type) [LinearOrder α] [BoundedOrder α] : CNum α where
  add a _ := a
  sub a _ := a
  mul a _ := a
  div a _ := a
  neg a := if a = ⊤ then ⊥ else a
  mod a _ := a
  lt := (· < ·)
  le := (· ≤ ·)
  min := Min.min
  max := Max.max
  ofNat _ := ⊥
  ofScientific _ _ _ := ⊥
  ofInt _ := ⊥
  toInt _ := 0
  decLt := inferInstance
  decLe := inferInstance
  beq a b := decide (a = b)
  abs a := a
  sqrt a := a
  sin a := a
  cos a := a
  tan a := a
  acos a := a
  asin a := a
  atan2 a _ := a
  floor a := a
  pow a _ := a
  exp a := a
  posInf := ⊤
  negInf := ⊥
  pi := ⊥
  nan := ⊥
  ulp := ⊥
  fltMin := ⊥
  rcpEst a := a
  rsqrtEst a := a

section
variable {α : Type} [LinearOrder α] [BoundedOrder α]
attribute [local instance] CNum.ofBoundedOrder
@[simp] theorem ofBoundedOrder_posInf : (CNum.posInf : α) = ⊤ := rfl
@[simp] theorem ofBoundedOrder_negInf : (CNum.negInf : α) = ⊥ := rfl
@[simp] theorem ofBoundedOrder_neg_top : (-(⊤ : α)) = ⊥ := by
  show (if (⊤ : α) = ⊤ then ⊥ else ⊤) = ⊥; simp
end

@[reducible] def CNum.ofField (α : Type) [Field α] [LinearOrder α] [IsStrictOrderedRing α] (top fmin : α) : CNum α where
  add := (· + ·)
  sub := (· - ·)
  mul := (· * ·)
  div := (· / ·)
  neg := (- ·)
  mod a _ := a
  lt := (· < ·)
  le := (· ≤ ·)
  min := Min.min
  max := Max.max
  ofNat n := (n : α)
  ofScientific m s e := (OfScientific.ofScientific m s e : α)
  ofInt n := (n : α)
  toInt _ := 0
  decLt := inferInstance
  decLe := inferInstance
  beq a b := decide (a = b)
  abs a := |a|
  sqrt a := a
  sin a := a
  cos a := a
  tan a := a
  acos a := a
  asin a := a
  atan2 a _ := a
  floor a := a
  pow a _ := a
  exp a := a
  posInf := top
  negInf := -top
  pi := 0
  nan := 0
  ulp := 0
  fltMin := fmin
  rcpEst a := 1 / a
  rsqrtEst a := a

end RkVerif

namespace RkVerif
section
variable {α : Type} [Field α] [LinearOrder α] [IsStrictOrderedRing α] (top fmin : α)

/-- numerals of generated code (elaborated through `CNum`'s `OfNat`) are the field's numerals -/
theorem ofField_ofNat (n : Nat) :
    (@OfNat.ofNat α n (@instOfNatOfCNum α (CNum.ofField α top fmin) n)) = (n : α) := rfl
theorem ofField_ofScientific (m : Nat) (s : Bool) (e : Nat) :
    (@OfScientific.ofScientific α (@instOfScientificOfCNum α (CNum.ofField α top fmin)) m s e) =
      (OfScientific.ofScientific m s e : α) := rfl
end
end RkVerif

namespace RkVerif
section
variable {α : Type} [Field α] [LinearOrder α] [IsStrictOrderedRing α] (top fmin : α)
theorem ofField_abs (x : α) : @CNum.abs α (CNum.ofField α top fmin) x = |x| := rfl
theorem ofField_fltMin : @CNum.fltMin α (CNum.ofField α top fmin) = fmin := rfl
theorem ofField_posInf : @CNum.posInf α (CNum.ofField α top fmin) = top := rfl
end
end RkVerif

namespace RkVerif
/-- Parameters of the field instance used for the transform algebra (C06): constants and the
    transcendental functions, about which each theorem states what it needs as hypotheses. -/
structure Transc (α : Type) where
  top : α
  fmin : α
  pi : α
  sqrt : α → α
  sin : α → α
  cos : α → α
  acos : α → α

@[reducible] def CNum.ofFieldT (α : Type) [Field α] [LinearOrder α] [IsStrictOrderedRing α] (E : Transc α) : CNum α where
  add := (· + ·)
  sub := (· - ·)
  mul := (· * ·)
  div := (· / ·)
  neg := (- ·)
  mod a _ := a
  lt := (· < ·)
  le := (· ≤ ·)
  min := Min.min
  max := Max.max
  ofNat n := (n : α)
  ofScientific m s e := (OfScientific.ofScientific m s e : α)
  ofInt n := (n : α)
  toInt _ := 0
  decLt := inferInstance
  decLe := inferInstance
  beq a b := decide (a = b)
  abs a := |a|
  sqrt := E.sqrt
  sin := E.sin
  cos := E.cos
  tan a := a
  acos := E.acos
  asin a := a
  atan2 a _ := a
  floor a := a
  pow a _ := a
  exp a := a
  posInf := E.top
  negInf := -E.top
  pi := E.pi
  nan := 0
  ulp := 0
  fltMin := E.fmin
  rcpEst a := 1 / a
  rsqrtEst a := a

section
variable {α : Type} [Field α] [LinearOrder α] [IsStrictOrderedRing α] (E : Transc α)
theorem ofFieldT_ofNat (n : Nat) :
    (@OfNat.ofNat α n (@instOfNatOfCNum α (CNum.ofFieldT α E) n)) = (n : α) := rfl
theorem ofFieldT_ofScientific (m : Nat) (s : Bool) (e : Nat) :
    (@OfScientific.ofScientific α (@instOfScientificOfCNum α (CNum.ofFieldT α E)) m s e) =
      (OfScientific.ofScientific m s e : α) := rfl
theorem ofFieldT_abs (x : α) : @CNum.abs α (CNum.ofFieldT α E) x = |x| := rfl
theorem ofFieldT_sqrt (x : α) : @CNum.sqrt α (CNum.ofFieldT α E) x = E.sqrt x := rfl
theorem ofFieldT_sin (x : α) : @CNum.sin α (CNum.ofFieldT α E) x = E.sin x := rfl
theorem ofFieldT_cos (x : α) : @CNum.cos α (CNum.ofFieldT α E) x = E.cos x := rfl
theorem ofFieldT_acos (x : α) : @CNum.acos α (CNum.ofFieldT α E) x = E.acos x := rfl
theorem ofFieldT_ofInt (n : Int) : @CNum.ofInt α (CNum.ofFieldT α E) n = (n : α) := rfl
end
end RkVerif
