/-
Property C18 — string, URL, path and argument helpers satisfy their decomposition laws.
The property theorems (model: Model/C18.lean, helpers: Lemmas/C18.lean), with the specification
vocabulary of the PseudoURL and prettyNumber parts.
Every theorem declared in this module is an audited proof obligation of the check.
-/
import RkVerif.Lemmas.C18
import Mathlib.Tactic.NormNum

namespace RkVerif.C18

/-- `lbm a b` is the longest common prefix: the meet of `a` and `b` in the prefix order. -/
theorem prefix_lbm_iff (a b p : Str) : p <+: lbm a b ↔ p <+: a ∧ p <+: b := by
  induction a generalizing b p with
  | nil => simp +contextual [lbm]
  | cons x a ih =>
    cases b with
    | nil => simp +contextual [lbm]
    | cons y b =>
      rw [lbm]
      cases p with
      | nil => simp
      | cons z p => split <;> simp_all [List.cons_prefix_cons, and_and_and_comm]

theorem lbm_is_common_prefix (a b : Str) : lbm a b <+: a ∧ lbm a b <+: b :=
  (prefix_lbm_iff a b _).mp (List.prefix_refl _)

theorem beginsWith_iff (input start : Str) : beginsWith input start = true ↔ start <+: input := by
  have h := lbm_is_common_prefix input start
  rw [beginsWith, beq_iff_eq]
  constructor
  · intro hl; exact h.2.eq_of_length hl ▸ h.1
  · intro hp
    exact Nat.le_antisymm h.2.length_le ((prefix_lbm_iff _ _ _).mpr ⟨hp, List.prefix_refl _⟩).length_le

example : lbm "0123456".toList "01234".toList = "01234".toList := by decide +kernel
example : beginsWith "0123456".toList "12".toList = false := by decide +kernel

/-- Re-joining the pieces of `split(input, char)` on the delimiter reproduces the input, except that
    `std::getline` swallows one trailing delimiter (`endFix d s` = that delimiter, if any). -/
theorem split_join (d : Char) (s : Str) : joinWith d (split1 d s) ++ endFix d s = s := by
  simpa [split1] using split1Aux_join d s []

theorem split_of_join (d : Char) (ts : List Str) (hfree : ∀ t ∈ ts, ∀ x ∈ t, x ≠ d)
    (hlast : ts.getLast? ≠ some []) : split1 d (joinWith d ts) = ts := by
  induction ts with
  | nil => rfl
  | cons t ts ih =>
    simp only [List.forall_mem_cons] at hfree
    cases ts with
    | nil =>
      have hne : t ≠ [] := by simpa using hlast
      simpa [joinWith, split1, split1Aux, hne] using split1Aux_free_append d t [] [] hfree.1
    | cons t2 ts =>
      rw [List.getLast?_cons_cons] at hlast
      rw [joinWith_cons_ne (List.cons_ne_nil _ _), split1, split1Aux_free_append d t _ [] hfree.1,
        split1Aux, if_pos rfl]
      exact congrArg _ (ih hfree.2 hlast)

theorem split_keeps_nonempty (d : Char) (s : Str) : (split1 d s).filter (· ≠ []) = runs (isD d) s := by
  unfold split1
  induction s using blocks_induction (isD d) with
  | nil => simp [split1Aux, runs_nil]
  | delim c s hc ih =>
    obtain rfl : c = d := isD_eq_true.mp hc
    simpa [split1Aux, runs_cons_delim, hc] using ih
  | tok t s hne ht hs ih =>
    rw [runs_tok hne ht hs, split1Aux_free_append d t s [] fun x hx => isD_eq_false.mp (ht x hx), ← ih]
    obtain _ | ⟨c, s⟩ := s
    · simp [split1Aux, hne]
    · simp [split1Aux, hne, isD_eq_true.mp (hs c rfl)]

theorem tokenize_eq_runs (d : Char) (s : Str) : tokenize d s = runs (isD d) s := by
  rw [tokenize, tokenizeK, tokenizeAux_eq_filter, ← split_keeps_nonempty]
  simp [split1, List.length_pos_iff]

/-- Every non-empty token — of any length ≥ 1 — of a string assembled with the delimiter comes back,
    in order, and nothing else. -/
theorem tokenize_keeps_nonempty (d : Char) (ts : List Str) (hfree : ∀ t ∈ ts, ∀ x ∈ t, x ≠ d) :
    tokenize d (joinWith d ts) = ts.filter (· ≠ []) := by
  rw [tokenize_eq_runs]
  exact runs_joinWith (isD d) d (isD_eq_true.mpr rfl) ts fun t ht x hx => isD_eq_false.mpr (hfree t ht x hx)

theorem tokenize_content (d : Char) (s : Str) : (tokenize d s).flatten = s.filter (· ≠ d) := by
  rw [tokenize_eq_runs, runs_flatten]; congr 1; funext x; by_cases h : x = d <;> simp [isD, h]

theorem splitSet_content (ds s : Str) : (splitSet ds false s).flatten = s.filter (· ∉ ds) := by
  rw [splitSet_eq_runs, runs_flatten]; congr 1; funext x; simp

/-- `split(input, delim, keepDelim)` for both values of `keepDelim`, on an input written
    `sep₀ t₀ sep₁ t₁ … sepₙ tₙ tail` (every string with a token has exactly one such writing): the
    result is `t₀ … tₙ`, each token preceded by the single character in front of it when `keepDelim`
    is set. -/
theorem splitSet_weave (ds : Str) (k : Bool) (first : Str × Str) (pairs : List (Str × Str)) (tail : Str)
    (hseps : ∀ pr ∈ first :: pairs, ∀ x ∈ pr.1, x ∈ ds)
    (hne : ∀ pr ∈ pairs, pr.1 ≠ [])
    (htoks : ∀ pr ∈ first :: pairs, pr.2 ≠ [] ∧ ∀ x ∈ pr.2, x ∉ ds)
    (htail : ∀ x ∈ tail, x ∈ ds) :
    splitSet ds k (weave (first :: pairs) ++ tail) =
      (first :: pairs).map (fun pr => (if k then pr.1.getLast?.toList else []) ++ pr.2) := by
  simpa [splitSet] using scan_weave (G := (splitSetAux ds k · · none))
    (out := fun c t => (if k then c.toList else []) ++ t) ss_skip ss_tok (fun _ => rfl) none hseps hne htoks htail

/-- the runs themselves are characterised the same way (so `runs` is the intended notion) -/
theorem runs_of_weave (p : Char → Bool) (first : Str × Str) (pairs : List (Str × Str)) (tail : Str)
    (hseps : ∀ pr ∈ first :: pairs, ∀ x ∈ pr.1, p x = true)
    (hne : ∀ pr ∈ pairs, pr.1 ≠ [])
    (htoks : ∀ pr ∈ first :: pairs, pr.2 ≠ [] ∧ ∀ x ∈ pr.2, p x = false)
    (htail : ∀ x ∈ tail, p x = true) :
    runs p (weave (first :: pairs) ++ tail) = (first :: pairs).map (·.2) :=
  scan_weave (G := fun s _ => runs p s) (out := fun _ t => t) runs_skip runs_tok (fun _ => runs_nil p) none
    hseps hne htoks htail

theorem runs_nonempty_delimiter_free (p : Char → Bool) (s : Str) :
    ∀ t ∈ runs p s, t ≠ [] ∧ ∀ x ∈ t, p x = false := by
  induction s using blocks_induction p with
  | nil => simp [runs_nil]
  | delim d s hd ih => rwa [runs_cons_delim p d s hd]
  | tok t s hne ht hs ih => rw [runs_tok hne ht hs]; exact List.forall_mem_cons.mpr ⟨⟨hne, ht⟩, ih⟩

theorem split_pieces_delimiter_free (d : Char) (s : Str) : ∀ t ∈ split1 d s, ∀ x ∈ t, x ≠ d := by
  intro t ht x hx
  have hr : t ∈ runs (isD d) s :=
    split_keeps_nonempty d s ▸ List.mem_filter.mpr ⟨ht, by simpa using List.ne_nil_of_mem hx⟩
  exact isD_eq_false.mp ((runs_nonempty_delimiter_free (isD d) s t hr).2 x hx)

-- non-vacuity / the defect of the unrepaired tokenizer (`> 1`) on the witness of DESIGN §9
example : tokenize ':' "a:bb:c".toList = ["a".toList, "bb".toList, "c".toList] := by decide +kernel
example : tokenizeK 1 ':' "a:bb:c".toList = ["bb".toList] := by decide +kernel
example : split1 ',' ",a,,b,".toList = [[], "a".toList, [], "b".toList] := by decide +kernel
example : splitSet ",;".toList true ",a,;b;cc".toList = [",a".toList, ";b".toList, ";cc".toList] := by decide +kernel

def paramStr (p : Str × Str) : Str := p.1 ++ '=' :: p.2

/-- `<type>://<file>[:name=value]*` -/
def assemble (type file : Str) (ps : List (Str × Str)) : Str :=
  type ++ "://".toList ++ file ++ (ps.map (fun p => ':' :: paramStr p)).flatten

def assembleNoType (file : Str) (ps : List (Str × Str)) : Str :=
  file ++ (ps.map (fun p => ':' :: paramStr p)).flatten

def PartsOk (type file : Str) (ps : List (Str × Str)) : Prop :=
  (∀ x ∈ type, x ≠ ':') ∧ file ≠ [] ∧ (∀ x ∈ file, x ≠ ':') ∧
  ∀ p ∈ ps, (∀ x ∈ p.1, x ≠ ':' ∧ x ≠ '=') ∧ (∀ x ∈ p.2, x ≠ ':')

theorem tokenize_params {type file : Str} {ps : List (Str × Str)} (h : PartsOk type file ps) :
    tokenize ':' (assembleNoType file ps) = file :: ps.map paramStr := by
  obtain ⟨-, hfne, hf, hps⟩ := h
  have := tokenize_keeps_nonempty ':' (file :: ps.map paramStr)
    (List.forall_mem_cons.mpr ⟨hf, List.forall_mem_map.mpr fun p hp x hx => by
      simp only [paramStr, List.mem_append, List.mem_cons] at hx
      rcases hx with h | rfl | h
      exacts [((hps p hp).1 x h).1, by decide, (hps p hp).2 x h]⟩)
  rw [joinWith_cons, List.map_map, List.filter_eq_self.mpr (List.forall_mem_cons.mpr
    ⟨by simpa using hfne, List.forall_mem_map.mpr fun p _ => by simp [paramStr]⟩)] at this
  simpa [assembleNoType, Function.comp_def] using this

theorem map_splitEq_params {type file : Str} {ps : List (Str × Str)} (h : PartsOk type file ps) :
    (ps.map paramStr).map splitEq = ps := by
  rw [List.map_map, List.map_congr_left (f := splitEq ∘ paramStr) (g := id)
    fun p hp => splitEq_name p.1 p.2 fun x hx => ((h.2.2.2 p hp).1 x hx).2, List.map_id]

/-- A URL assembled from delimiter-free parts parses back into exactly those parts (type, file name,
    the parameter list in order — duplicates included). -/
theorem pseudourl_roundtrip (type file : Str) (ps : List (Str × Str)) (h : PartsOk type file ps) :
    parseURL (assemble type file ps) = ⟨type, file, ps⟩ := by
  have hsep : findSep (assemble type file ps) = some (type, assembleNoType file ps) := by
    simpa [assemble, assembleNoType] using findSep_type type (assembleNoType file ps) h.1
  simp only [parseURL, hsep, tokenize_params h, map_splitEq_params h]

/-- the same for the form without `type://`, when in addition the assembled string has no `:` directly
    followed by `/` (`noSepIn`; as the parts contain no `:`, this says that no parameter name starts
    with `/`).  Otherwise `file:/…` itself may contain the `://` marker and is read as a type — inherent
    to the format. -/
theorem pseudourl_roundtrip_notype (file : Str) (ps : List (Str × Str)) (h : PartsOk [] file ps)
    (hns : noSepIn (assembleNoType file ps)) :
    parseURL (assembleNoType file ps) = ⟨[], file, ps⟩ := by
  simp only [parseURL, findSep_none _ hns, tokenize_params h, map_splitEq_params h]

theorem getValue_last_wins (ps : List (Str × Str)) (n : Str) :
    getValue ps n = ((ps.filter (·.1 = n)).getLast?).map (·.2) := by
  induction ps with
  | nil => rfl
  | cons p ps ih =>
    rw [getValue, ih, List.filter_cons, apply_ite List.getLast?, List.getLast?_cons]
    cases (ps.filter (·.1 = n)).getLast? <;> by_cases h : p.1 = n <;> simp [h]

theorem getValue_snoc (ps : List (Str × Str)) (m n v : Str) :
    getValue (ps ++ [(m, v)]) n = if m = n then some v else getValue ps n := by
  rw [getValue_last_wins, getValue_last_wins, List.filter_append]
  by_cases h : m = n <;> simp [h]

theorem hasParam_iff (ps : List (Str × Str)) (n : Str) : hasParam ps n = true ↔ ∃ v, (n, v) ∈ ps := by
  simp only [hasParam, List.any_eq_true, decide_eq_true_eq]
  constructor
  · rintro ⟨⟨a, b⟩, hm, rfl⟩; exact ⟨b, hm⟩
  · rintro ⟨v, hm⟩; exact ⟨(n, v), hm, rfl⟩

theorem getValue_throws_iff (ps : List (Str × Str)) (n : Str) : getValue ps n = none ↔ hasParam ps n = false := by
  simp [getValue_last_wins, hasParam]

example : PartsOk "pts".toList "f.raw".toList [("a".toList, "1".toList), ("b".toList, []), ("a".toList, "2".toList)] := by
  unfold PartsOk; decide +kernel
example : parseURL "pts://f:a=1:b=:a=2".toList =
    ⟨"pts".toList, "f".toList, [("a".toList, "1".toList), ("b".toList, []), ("a".toList, "2".toList)]⟩ := by decide +kernel
example : getValue [("a".toList, "1".toList), ("b".toList, []), ("a".toList, "2".toList)] "a".toList = some "2".toList := by decide +kernel

/-- Name and extension come from the last component only (`filename_path_base` gives
    `path() + base() == str()`). -/
theorem filename_decompose (f : Str) :
    ('.' ∈ base f → base f = name f ++ '.' :: ext f ∧ '.' ∉ ext f) ∧
    ('.' ∉ base f → name f = base f ∧ ext f = []) := by
  obtain ⟨e, ⟨-, -, hform⟩, -, hb, he, -⟩ := filename_parts f
  rw [hb, he]
  rcases hform with ⟨rfl, hd⟩ | ⟨x, rfl, -, hd⟩
  · simp [hd]
  · simp [hd]

theorem name_ext_of_base (f : Str) : name f = name (base f) ∧ ext f = ext (base f) := by
  obtain ⟨e, ⟨-, hP⟩, -, hb, he, -⟩ := filename_parts f
  have := parts_eval (pf := []) ⟨Or.inl rfl, hP⟩
  rw [List.nil_append, ← hb] at this
  exact ⟨this.2.2.1.symm, he.trans this.2.2.2.1.symm⟩

theorem mkFile_is_normal (s : Str) : Normal (mkFile s) := mkFile_normal s
theorem mkFile_of_normal (f : Str) (h : Normal f) : mkFile f = f := mkFile_id h

theorem setExt_law (f x : Str) (hf : Normal f) (hx : ExtOk x) :
    let g := setExt f ('.' :: x)
    g = path f ++ name f ++ '.' :: x ∧ path g = path f ∧ name g = name f ∧ ext g = x := by
  intro g
  obtain ⟨e, hP, hfe, -, -, -, hset⟩ := filename_parts f
  have := parts_ext hP.1 hP.2.1 (fun c hc => hf.1 c (List.IsPrefix.subset ⟨e, hfe.symm⟩ hc)) hx
  rw [show g = _ from hset _, this.1]
  exact ⟨rfl, this.2⟩

/-- `hne`: an empty name — hidden file `dir/.x` — leaves `dir/`, which the constructor normalises to
    `dir`. -/
theorem dropExt_law (f : Str) (hf : Normal f) (hne : name f ≠ []) :
    dropExt f = path f ++ name f ∧ path (dropExt f) = path f ∧ base (dropExt f) = name f := by
  obtain ⟨e, hP, hfe, -, -, hdrop, -⟩ := filename_parts f
  have hsub : ∀ c ∈ path f ++ name f, c ≠ '\\' := fun c hc =>
    hf.1 c (List.IsPrefix.subset ⟨e, hfe.symm⟩ hc)
  have hn : Normal (path f ++ name f) := normal_append (fun c hc => hsub c (List.mem_append_left _ hc))
    (normal_of_not_mem (fun hc => hsub _ (List.mem_append_right _ hc) rfl) hP.2.1) hne
  rw [hdrop, mkFile_id hn]
  exact ⟨rfl, path_base_append hP.1 hP.2.1⟩

theorem addExt_law (f x : Str) (hf : Normal f) (hx : ExtOk x) :
    let g := addExt f ('.' :: x)
    g = f ++ '.' :: x ∧ path g = path f ∧ name g = base f ∧ ext g = x := by
  intro g
  obtain ⟨hpb, hb, hval⟩ := filename_path_base f
  have := parts_ext hval hb (hpb.symm ▸ hf.1) hx
  rw [hpb] at this
  rw [show g = f ++ '.' :: x from this.1]
  exact ⟨rfl, this.2⟩

theorem plus_law (f g : Str) (hf : Normal f) (hg : Normal g) (hfne : f ≠ []) (hgne : g ≠ []) :
    plus f g = f ++ '/' :: g ∧ path (plus f g) = f ++ '/' :: path g ∧ base (plus f g) = base g := by
  have hn : Normal (f ++ '/' :: g) := List.append_cons .. ▸ normal_append (a := f ++ ['/'])
    (by simpa [or_imp, forall_and] using hf.1) hg hgne
  obtain ⟨hpb, hb, hval⟩ := filename_path_base g
  have hv2 : ValidPath (f ++ '/' :: path g) := by
    rcases hval with h | ⟨p, h⟩
    · exact Or.inr ⟨f, by rw [h]⟩
    · exact Or.inr ⟨f ++ '/' :: p, by simp [h]⟩
  have := path_base_append hv2 hb
  rw [List.append_assoc, List.cons_append, hpb] at this
  rw [show plus f g = f ++ '/' :: g by simp [plus, hfne, mkFile_id hn]]
  exact ⟨rfl, this⟩

theorem plus_empty (f : Str) (hf : Normal f) : plus [] f = f ∧ plus f [] = f := by
  by_cases h : f = []
  · subst h; simp [plus, mkFile_id hf]
  · simp [plus, h, mkFile_snoc_sep, mkFile_id hf]

-- non-vacuity, and the witnesses of DESIGN §9 on the repaired model
example : Normal "dir.d/file".toList := by unfold Normal; decide +kernel
example : ext "dir.d/file".toList = [] ∧ dropExt "dir.d/file".toList = "dir.d/file".toList := by decide +kernel
example : name "a/.bashrc".toList = [] ∧ ext "a/.bashrc".toList = "bashrc".toList := by decide +kernel
example : setExt "a.d/b.c".toList ".x".toList = "a.d/b.x".toList := by decide +kernel
example : mkFile "a\\b//".toList = "a/b".toList := by decide +kernel
example : ExtOk "txt".toList := by unfold ExtOk; decide +kernel

variable {α : Type}

theorem remove_keeps_rest (args : List α) (w n : Nat) :
    remove args w n = args.take w ++ args.drop (w + n) := remove_eq args w n

theorem args_keep_unconsumed (f : α → Nat) (args : List α) :
    parseAndRemove f args = keepUnconsumed f args :=
  parseLoop_append f _ [] args (by omega)

theorem keepUnconsumed_sublist (f : α → Nat) (args : List α) : (keepUnconsumed f args).Sublist args := by
  fun_induction keepUnconsumed f args with
  | case1 => simp
  | case2 a rest h ih => exact ih.cons_cons a
  | case3 a rest h ih => exact (ih.trans (List.drop_sublist _ _)).cons a

theorem args_order_preserved (f : α → Nat) (args : List α) : (parseAndRemove f args).Sublist args := by
  rw [args_keep_unconsumed]; exact keepUnconsumed_sublist f args

theorem keepUnconsumed_append (f : α → Nat) (pre rest : List α) (hpre : ∀ b ∈ pre, f b = 0) :
    keepUnconsumed f (pre ++ rest) = pre ++ keepUnconsumed f rest := by
  induction pre with
  | nil => rfl
  | cons b pre ih =>
    simp only [List.forall_mem_cons] at hpre
    rw [List.cons_append, keepUnconsumed_cons, if_pos hpre.1, ih hpre.2, List.cons_append]

theorem args_nothing_consumed (f : α → Nat) (args : List α) (h : ∀ a ∈ args, f a = 0) :
    parseAndRemove f args = args := by
  simpa [args_keep_unconsumed, keepUnconsumed_nil] using keepUnconsumed_append f args [] h

theorem args_group_consumed (f : α → Nat) (pre : List α) (a : α) (ops post : List α)
    (hpre : ∀ b ∈ pre, f b = 0) (ha : f a = ops.length + 1) :
    parseAndRemove f (pre ++ a :: ops ++ post) = pre ++ parseAndRemove f post := by
  rw [args_keep_unconsumed, args_keep_unconsumed, List.append_assoc, keepUnconsumed_append f pre _ hpre,
    List.cons_append, keepUnconsumed_cons, if_neg (by omega), ha]
  simp

theorem removeArgs_keeps_rest (av : List α) (w h : Nat) (hr : w + h ≤ av.length) :
    removeArgs av w h = av.take w ++ av.drop (w + h) := by
  rw [removeArgs, shiftLoop_eq h _ (w + h) av (Nat.le_add_left ..) (by omega), Nat.add_sub_cancel,
    List.take_of_length_le (l := av.drop (w + h)) (by rw [List.length_drop])]
  exact List.take_left' (by rw [List.length_append, List.length_take, List.length_drop]; omega)

theorem argsNew_drops_program_name (av : List α) : argsNew av = av.tail := List.drop_one

example : parseAndRemove (fun a => if a = 1 then 1 else if a = 3 then 2 else 0) [1, 2, 3, 4] = [2] := by decide +kernel
example : removeArgs [0, 1, 2, 3, 4, 5] 2 2 = [0, 1, 4, 5] := by decide +kernel

/-! ## prettyNumber / prettyDouble: the SI threshold table (exact rationals of the float literals) -/

theorem mantissa_err {x r : Rat} (hx : 0 ≤ x) (h1 : 1 - 1 / 10 ^ 7 ≤ r) (h2 : r ≤ 1 + 1 / 10 ^ 7) :
    |x * r - x| ≤ x / 10 ^ 7 := by
  rw [← mul_sub_one, div_eq_mul_one_div, abs_le, ← mul_neg]
  exact ⟨mul_le_mul_of_nonneg_left (neg_le_sub_iff_le_add.mpr (sub_le_iff_le_add.mp h1)) hx,
    mul_le_mul_of_nonneg_left (sub_le_iff_le_add'.mpr h2) hx⟩

/-- What the theorems need of a table of arms `absVal >= thr → val / scale` read for `lo ≤ x < hi`:
    each arm divides by at most its threshold and by at least the `1000·(1+10⁻⁷)`-th part of the bound
    above it, and the divisor is within `10⁻⁷` of the power of ten its suffix stands for; the last
    threshold is at most `lo`.  `10⁻⁷`: the thresholds and divisors are `float` literals, and a float is
    within `2⁻²⁴ < 10⁻⁷` (relative) of the decimal it is written as. -/
def BigOk (lo hi : Rat) : List Arm → Prop
  | [] => hi ≤ lo
  | a :: rest => (0 < a.scale ∧ a.scale ≤ a.thr ∧ hi ≤ 1000 * (1 + 1 / 10 ^ 7) * a.scale ∧
      1 - 1 / 10 ^ 7 ≤ a.si / a.scale ∧ a.si / a.scale ≤ 1 + 1 / 10 ^ 7) ∧ BigOk lo a.thr rest

/-- The same for arms `absVal <= thr → val * scale` read for `lo < x ≤ hi`. -/
def SmallOk (lo hi : Rat) : List Arm → Prop
  | [] => hi ≤ lo
  | a :: rest => (0 < a.scale ∧ 1 - 1 / 10 ^ 7 ≤ lo * a.scale ∧ a.thr * a.scale ≤ 1000 * (1 + 1 / 10 ^ 7) ∧
      1 - 1 / 10 ^ 7 ≤ a.scale * a.si ∧ a.scale * a.si ≤ 1 + 1 / 10 ^ 7) ∧ SmallOk a.thr hi rest

theorem selectBig_bounds (arms : List Arm) (lo hi x : Rat) (hok : BigOk lo hi arms) (hlo : lo ≤ x)
    (hx : x < hi) :
    ∃ a ∈ arms, selectBig x arms = some a ∧
      1 ≤ x / a.scale ∧ x / a.scale < 1000 * (1 + 1 / 10 ^ 7) ∧ |x / a.scale * a.si - x| ≤ x / 10 ^ 7 := by
  induction arms generalizing hi with
  | nil => exact absurd (hx.trans_le hok) (not_lt.mpr hlo)
  | cons b rest ih =>
    obtain ⟨⟨hc, hthr, hhi, hs1, hs2⟩, hrest⟩ := hok
    rw [selectBig]
    by_cases hsel : x ≥ b.thr
    · have hcx : b.scale ≤ x := hthr.trans hsel
      refine ⟨b, List.mem_cons_self, if_pos hsel, (one_le_div₀ hc).mpr hcx,
        (div_lt_iff₀ hc).mpr (hx.trans_le hhi), ?_⟩
      rw [div_mul_eq_mul_div, ← mul_div_assoc']
      exact mantissa_err (hc.le.trans hcx) hs1 hs2
    · obtain ⟨a, ha, h⟩ := ih b.thr hrest (not_le.mp hsel)
      exact ⟨a, List.mem_cons_of_mem _ ha, (if_neg hsel).trans h.1, h.2⟩

theorem selectSmall_bounds (arms : List Arm) (lo hi x : Rat) (hok : SmallOk lo hi arms) (hx0 : 0 < x)
    (hlo : lo < x) (hx : x ≤ hi) :
    ∃ a ∈ arms, selectSmall x arms = some a ∧
      1 - 1 / 10 ^ 7 < x * a.scale ∧ x * a.scale ≤ 1000 * (1 + 1 / 10 ^ 7) ∧
      |x * a.scale * a.si - x| ≤ x / 10 ^ 7 := by
  induction arms generalizing lo with
  | nil => exact absurd (hx.trans hok) (not_le.mpr hlo)
  | cons b rest ih =>
    obtain ⟨⟨hs, h1, h2, h3, h4⟩, hrest⟩ := hok
    rw [selectSmall]
    by_cases hsel : x ≤ b.thr
    · refine ⟨b, List.mem_cons_self, if_pos hsel, h1.trans_lt (mul_lt_mul_of_pos_right hlo hs),
        (mul_le_mul_of_nonneg_right hsel hs.le).trans h2, ?_⟩
      rw [mul_assoc]
      exact mantissa_err hx0.le h3 h4
    · obtain ⟨a, ha, h⟩ := ih b.thr hrest (not_le.mp hsel)
      exact ⟨a, List.mem_cons_of_mem _ ha, (if_neg hsel).trans h.1, h.2⟩

theorem selectBig_eq_find? (x : Rat) (arms : List Arm) : selectBig x arms = arms.find? (x ≥ ·.thr) := by
  induction arms with
  | nil => rfl
  | cons a rest ih => by_cases h : x ≥ a.thr <;> simp [selectBig, ih, h]

theorem selectSmall_eq_find? (x : Rat) (arms : List Arm) : selectSmall x arms = arms.find? (x ≤ ·.thr) := by
  induction arms with
  | nil => rfl
  | cons a rest ih => by_cases h : x ≤ a.thr <;> simp [selectSmall, ih, h]

/-- pretty_mantissa (large values): the mantissa `x / scale` of the selected arm lies in
    `[1, 1000·(1+10⁻⁷))` and suffix × mantissa is `x` up to the rounding of the float literal (relative
    `10⁻⁷`, far below the one printed decimal). -/
theorem pretty_mantissa_big (x : Rat) (hlo : 1000 ≤ x) (hhi : x < 10 ^ 21) :
    ∃ a ∈ bigArms, selectBig x bigArms = some a ∧
      1 ≤ x / a.scale ∧ x / a.scale < 1000 * (1 + 1 / 10 ^ 7) ∧ |x / a.scale * a.si - x| ≤ x / 10 ^ 7 :=
  selectBig_bounds bigArms 1000 (10 ^ 21) x
    (by simp only [BigOk, bigArms]; decide +kernel) hlo hhi

theorem pretty_no_big_arm (x : Rat) (h : x < 1000) : selectBig x bigArms = none := by
  have : ∀ a ∈ bigArms, (1000 : Rat) ≤ a.thr := by decide +kernel
  rw [selectBig_eq_find?, List.find?_eq_none]
  exact fun a ha => by simpa using h.trans_le (this a ha)

/-- pretty_mantissa (small values, prettyDouble): the same with the mantissa `x * scale` in
    `(1-10⁻⁷, 1000·(1+10⁻⁷)]`. -/
theorem pretty_mantissa_small (x : Rat) (hlo : 1 / 10 ^ 15 < x) (hhi : x ≤ 1) :
    selectBig x bigArms = none ∧ ∃ a ∈ smallArms, selectSmall x smallArms = some a ∧
      1 - 1 / 10 ^ 7 < x * a.scale ∧ x * a.scale ≤ 1000 * (1 + 1 / 10 ^ 7) ∧
      |x * a.scale * a.si - x| ≤ x / 10 ^ 7 :=
  ⟨pretty_no_big_arm x (hhi.trans_lt (by norm_num)), selectSmall_bounds smallArms (1 / 10 ^ 15) 1 x
    (by simp only [SmallOk, smallArms]; decide +kernel)
    (lt_trans (by norm_num) hlo) hlo hhi⟩

/-- between 1 and 1000 prettyDouble selects no arm: the value itself (already in `(1,1000)`) is printed. -/
theorem pretty_plain_mid (x : Rat) (h1 : 1 < x) (h2 : x < 1000) :
    selectBig x bigArms = none ∧ selectSmall x smallArms = none := by
  have : ∀ a ∈ smallArms, a.thr ≤ (1 : Rat) := by decide +kernel
  rw [selectSmall_eq_find?, List.find?_eq_none]
  exact ⟨pretty_no_big_arm x h2, fun a ha => by simpa using (this a ha).trans_lt h1⟩

-- the unrepaired table (first threshold 1e15f with divisor 1e18f) on the witness of DESIGN §9:
-- 2·10¹⁵ selects 'E' with mantissa 0.002 < 1
example : selectBig 2000000000000000 (⟨f1e15, f1e18, 'E', 1000000000000000000⟩ :: bigArms.tail) =
    some ⟨f1e15, f1e18, 'E', 1000000000000000000⟩ := by
  rw [selectBig, if_pos (by decide +kernel)]
example : (2000000000000000 : Rat) / f1e18 < 1 := by decide +kernel
-- (the printed strings themselves, e.g. prettyNumber 2·10¹⁵ = "2.0P", are compared with the real
--  snprintf output by the correspondence check; corpus/C18/pretty_exa.ops)

theorem roundHalfEven_cases (q : Rat) :
    (roundHalfEven q = q.num.toNat / q.den ∧ 2 * (q.num.toNat % q.den) ≤ q.den) ∨
    (roundHalfEven q = q.num.toNat / q.den + 1 ∧ q.den ≤ 2 * (q.num.toNat % q.den)) := by
  simp only [roundHalfEven]
  rcases Nat.lt_trichotomy (2 * (q.num.toNat % q.den)) q.den with h | h | h
  · rw [if_pos h]; exact Or.inl ⟨rfl, h.le⟩
  · rw [if_neg (Nat.not_lt_of_le h.ge), if_neg (Nat.not_lt_of_le h.le)]
    exact (ite_eq_or_eq ..).imp (⟨·, h.le⟩) (⟨·, h.ge⟩)
  · rw [if_neg (Nat.lt_asymm h), if_pos h]; exact Or.inr ⟨rfl, h.le⟩

theorem roundHalfEven_close (q : Rat) (hq : 0 ≤ q) : |((roundHalfEven q : Nat) : Rat) - q| ≤ 1 / 2 := by
  have hd : (0 : Rat) < q.den := Nat.cast_pos.mpr q.den_pos
  have hnum : (q.num : Rat) = (q.den * (q.num.toNat / q.den) + q.num.toNat % q.den : Nat) := by
    rw [Nat.div_add_mod, ← Int.cast_natCast, Int.toNat_of_nonneg (Rat.num_nonneg.mpr hq)]
  -- `q - ⌊q⌋ = x` with `x = (num % den) / den` in `[0, 1]`
  have hx : q - (q.num.toNat / q.den : Nat) = ((q.num.toNat % q.den : Nat) : Rat) / q.den := by
    rw [eq_div_iff hd.ne', sub_mul, Rat.mul_den_eq_num, hnum, Nat.cast_add, Nat.cast_mul, mul_comm,
      add_sub_cancel_left]
  have h0 : 0 ≤ ((q.num.toNat % q.den : Nat) : Rat) / q.den := div_nonneg (Nat.cast_nonneg _) hd.le
  have h1 : ((q.num.toNat % q.den : Nat) : Rat) / q.den ≤ 1 :=
    (div_le_one₀ hd).mpr (Nat.cast_le.mpr (Nat.mod_lt _ q.den_pos).le)
  rw [abs_sub_comm]
  rcases roundHalfEven_cases q with ⟨h, h'⟩ | ⟨h, h'⟩
  · -- rounded down: the error is `x`, and `x ≤ 1/2`
    rw [h, hx, abs_of_nonneg h0, div_le_div_iff₀ hd two_pos, one_mul, mul_comm]
    exact_mod_cast h'
  · -- rounded up: the error is `1 - x`, and `1/2 ≤ x`
    rw [h, Nat.cast_succ, sub_add_eq_sub_sub, hx, abs_of_nonpos (sub_nonpos.mpr h1), neg_sub, sub_le_comm,
      sub_half, div_le_div_iff₀ two_pos hd, one_mul, mul_comm]
    exact_mod_cast h'

theorem printed_close (m c : Rat) (hm : 0 ≤ m) (hc : 0 < c) :
    |((roundHalfEven (m * c) : Nat) : Rat) / c - m| ≤ 1 / 2 / c := by
  obtain ⟨h1, h2⟩ := abs_le.mp (roundHalfEven_close (m * c) (mul_nonneg hm hc.le))
  rw [div_sub' hc.ne', mul_comm c m, abs_le, ← neg_div]
  exact ⟨div_le_div_of_nonneg_right h1 hc.le, div_le_div_of_nonneg_right h2 hc.le⟩

/-- The tenths that `fmtFixed 1` computes for a value `m ≥ 0` are within 0.05 of `m`.  In
    `prettyNumber`/`prettyDouble` that `m` is the double `f64 (val / scale)`; its distance to the exact
    quotient is not part of this statement, and no theorem here is about `fmtFixed` itself. -/
theorem printed_tenths_close (m : Rat) (hm : 0 ≤ m) :
    |((roundHalfEven (m * 10) : Nat) : Rat) / 10 - m| ≤ 1 / 20 :=
  (printed_close m 10 hm (by norm_num)).trans_eq (by norm_num)

end RkVerif.C18
