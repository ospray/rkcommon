/-
Property C07 — scalar math kernels meet accuracy and range contracts (claimed PARTIAL).

The theorems are about the model `RkVerif/Model/C07.lean` at an ARBITRARY linearly ordered field `α`, through
`CNum.ofFieldX E` (`E.fmin` = FLT_MIN, `E.pow` = powf, `E.sqrt` = sqrtf are parameters; each theorem states what it
assumes about them). Integer and bit kernels are over `Int` / `Nat`.

Four theorems with rounded operations (`rcp_nr_error`, `rsqrt_nr_error`, `biased_float_range_fl`,
`uniform_real_range_fl_partial`) are about the rounded forms `rcp_simd_fl`, `rsqrt_simd_fl`, `biased_float_fl`,
`uniform_real_fl` defined in this file: the model's expression with a factor `(1 + dᵢ)` after each float operation.
`rcp_simd_fl_zero` and `rsqrt_simd_fl_zero` prove that the first two are the model when every `dᵢ = 0`; for the two
distributions that correspondence is stated only in the definitions' doc comments (`t` stands for `scale * float(k)`,
`kf`, `mf` for the converted integers).

Float rounding enters through the standard model: a rounded operation returns `exact * (1 + d)` with `|d| ≤ u`,
`u = 2⁻²⁴`. The hardware estimate enters as the model's input `r` with the hypothesis `|r·x − 1| ≤ 1.5·2⁻¹²`.
Those two hypotheses and the monotonicity of `pow`/`round` are NOT proved here: they are validated on the real
code for all 2³² float bit patterns by harness/c07_sweep.cpp (observed on this machine; hence "partial").

Determinism ("reproducible from the seed") is definitional: `biasedStream`, `uniformStream` and `Pcg32.draws` are
Lean functions of `(seed, sequence, lower, upper, n)` — there is no hidden state to prove anything about; the tie
(bit-exact streams against the real pcg32 for random and extreme seeds) is what carries that clause.
-/
import RkVerif.Lemmas.C07

namespace RkVerif.C07

section field
variable {α : Type} [Field α] [LinearOrder α] [IsStrictOrderedRing α] (E : Ext α)
local notation "𝔽" => CNum.ofFieldX α E

/-- Exact arithmetic: with `e = r·x − 1` the estimate's relative error, one step leaves exactly `−e²`. -/
theorem rcp_nr_exact (x r : α) :
    @rcp_simd α 𝔽 x r * x - 1 = -(r * x - 1) ^ 2 := by
  rw [rcp_simd_eq]; ring

/-- `rcp_simd` with each of its three float operations rounded: `t1 = fl(r*x)`, `t2 = fl(2 - t1)`, `fl(r*t2)`. -/
def rcp_simd_fl (x r d1 d2 d3 : α) : α :=
  (r * ((2 - (r * x) * (1 + d1)) * (1 + d2))) * (1 + d3)

theorem rcp_simd_fl_zero (x r : α) : rcp_simd_fl x r 0 0 0 = @rcp_simd α 𝔽 x r := by
  simp only [rcp_simd_eq, rcp_simd_fl, add_zero, mul_one]

/-- **rcp accuracy (SIMD build).** If the hardware estimate `r` satisfies `|r·x − 1| ≤ 1.5·2⁻¹²` (documented bound of
    `rcpss`) and each of the three float operations obeys the standard model with `|dᵢ| ≤ 2⁻²⁴`, the result is within
    relative error 2⁻²⁰ of `1/x`. -/
theorem rcp_nr_error (x r d1 d2 d3 : α)
    (he : |r * x - 1| ≤ 3 / 8192)
    (h1 : |d1| ≤ 1 / 16777216) (h2 : |d2| ≤ 1 / 16777216) (h3 : |d3| ≤ 1 / 16777216) :
    |rcp_simd_fl x r d1 d2 d3 * x - 1| ≤ 1 / 1048576 := by
  have hid : rcp_simd_fl x r d1 d2 d3 * x = r * x * (2 - r * x * (1 + d1)) * (1 + d2) * (1 + d3) := by
    unfold rcp_simd_fl; ring
  rw [hid]
  exact (rcp_nr_rel he h1 h2 h3).trans (by norm_num)

/-- Corollary in exact arithmetic (no rounding): the Newton–Raphson step alone brings 1.5·2⁻¹² down to below 2⁻²⁰. -/
theorem rcp_nr_error_exact (x r : α) (he : |r * x - 1| ≤ 3 / 8192) :
    |@rcp_simd α 𝔽 x r * x - 1| ≤ 1 / 1048576 := by
  have h0 : |(0 : α)| ≤ 1 / 16777216 := by norm_num
  rw [← rcp_simd_fl_zero]
  exact rcp_nr_error x r 0 0 0 he h0 h0 h0

/-- Exact arithmetic: one step turns the relative error `e` of the estimate (`r = (1+e)/√x`) into `−3e²/2 − e³/2`. -/
theorem rsqrt_nr_exact (x r s e : α) (hs : 0 < s) (hx : x = s * s) (hr : r = (1 + e) / s) :
    @rsqrt_simd α 𝔽 x r * s = 1 - 3 / 2 * e ^ 2 - 1 / 2 * e ^ 3 := by
  rw [rsqrt_simd_eq, hx, hr]
  have : s ≠ 0 := ne_of_gt hs
  field_simp
  ring

/-- `rsqrt_simd` with each of its six float operations rounded, in the source's order:
    `m1 = fl(1.5*r)`, `m2 = fl(x * -0.5)`, `m3 = fl(m2*r)`, `m4 = fl(r*r)`, `m5 = fl(m3*m4)`, `fl(m1+m5)`. -/
def rsqrt_simd_fl (x r d1 d2 d3 d4 d5 d6 : α) : α :=
  ((3 / 2 * r) * (1 + d1) + ((((x * -(1 / 2)) * (1 + d2)) * r) * (1 + d3) * ((r * r) * (1 + d4))) * (1 + d5)) * (1 + d6)

theorem rsqrt_simd_fl_zero (x r : α) : rsqrt_simd_fl x r 0 0 0 0 0 0 = @rsqrt_simd α 𝔽 x r := by
  simp only [rsqrt_simd_eq, rsqrt_simd_fl, add_zero, mul_one]

/-- **rsqrt accuracy (SIMD build).** `x = s²` (read `s = √x`; the sign of `s` is not used), estimate error
    `|r·s − 1| ≤ 1.5·2⁻¹²`, all six float operations rounded with `|dᵢ| ≤ 2⁻²⁴`: the result `y` satisfies
    `|y·√x − 1| ≤ 2⁻²⁰`. -/
theorem rsqrt_nr_error (x r s d1 d2 d3 d4 d5 d6 : α) (hx : x = s * s)
    (he : |r * s - 1| ≤ 3 / 8192)
    (h1 : |d1| ≤ 1 / 16777216) (h2 : |d2| ≤ 1 / 16777216) (h3 : |d3| ≤ 1 / 16777216)
    (h4 : |d4| ≤ 1 / 16777216) (h5 : |d5| ≤ 1 / 16777216) (h6 : |d6| ≤ 1 / 16777216) :
    |rsqrt_simd_fl x r d1 d2 d3 d4 d5 d6 * s - 1| ≤ 1 / 1048576 := by
  have hid : rsqrt_simd_fl x r d1 d2 d3 d4 d5 d6 * s
      = (3 / 2 * (r * s) * (1 + d1) - 1 / 2 * (r * s) ^ 3 * ((1 + d2) * (1 + d3) * (1 + d4) * (1 + d5))) * (1 + d6) := by
    rw [hx]; unfold rsqrt_simd_fl; ring
  rw [hid]
  have hP := abs_round_sub_one_le (abs_round_sub_one_le (abs_round_sub_one_le (abs_one_add_sub_one h2) h3) h4) h5
  exact (rsqrt_nr_rel he h1 hP h6).trans (by norm_num)

theorem rsqrt_nr_error_exact (x r s : α) (hx : x = s * s) (he : |r * s - 1| ≤ 3 / 8192) :
    |@rsqrt_simd α 𝔽 x r * s - 1| ≤ 1 / 1048576 := by
  have h0 : |(0 : α)| ≤ 1 / 16777216 := by norm_num
  rw [← rsqrt_simd_fl_zero]
  exact rsqrt_nr_error x r s 0 0 0 0 0 0 hx he h0 h0 h0 h0 h0 h0

/-- **rcp accuracy (NO_SIMD build)**: one rounded division. -/
theorem nosimd_error_rcp (x d : α) (hx : x ≠ 0) (hd : |d| ≤ 1 / 16777216) :
    |(@rcp_nosimd α 𝔽 x * (1 + d)) * x - 1| ≤ 1 / 1048576 := by
  have h : 1 / x * (1 + d) * x - 1 = d := by rw [mul_right_comm, one_div_mul_cancel hx, one_mul, add_sub_cancel_left]
  rw [rcp_nosimd_eq, h]
  exact hd.trans (by norm_num)

/-- **rsqrt accuracy (NO_SIMD build)**: `sqrtf` correctly rounded (`sqrt x = s(1+d1)`, read `s = √x`) followed by one
    rounded division. -/
theorem nosimd_error_rsqrt (x s d1 d2 : α) (hs : 0 < s) (hsq : E.sqrt x = s * (1 + d1))
    (h1 : |d1| ≤ 1 / 16777216) (h2 : |d2| ≤ 1 / 16777216) :
    |(@rsqrt_nosimd α 𝔽 x * (1 + d2)) * s - 1| ≤ 1 / 1048576 := by
  have hid : 1 / (s * (1 + d1)) * (1 + d2) * s = (1 + d2) / (1 + d1) := by
    rw [one_div_mul_eq_div, div_mul_eq_mul_div, mul_comm, mul_div_mul_left _ _ hs.ne']
  rw [rsqrt_nosimd_eq, hsq, hid]
  exact (abs_div_sub_one_le (abs_one_add_sub_one h2) (abs_one_add_sub_one h1) (by norm_num)).trans (by norm_num)

/-- What `rcp_safe_t` hands to `rcp`, for EVERY `x` (zeros of either sign and denormals included); `0 ≤ x` is the
    code's `x >= 0.f` test. -/
theorem rcp_safe_arg_spec (hf : 0 < E.fmin) (x : α) :
    E.fmin ≤ |@rcp_safe_arg α 𝔽 x| ∧ (0 ≤ x → 0 < @rcp_safe_arg α 𝔽 x) ∧ (x < 0 → @rcp_safe_arg α 𝔽 x < 0) ∧
    (E.fmin ≤ |x| → @rcp_safe_arg α 𝔽 x = x) := by
  rw [rcp_safe_arg_eq]
  split_ifs with hs hx
  · exact ⟨(abs_of_pos hf).ge, fun _ => hf, fun h => absurd hx h.not_ge, fun h => absurd hs h.not_gt⟩
  · exact ⟨by rw [abs_neg, abs_of_pos hf], fun h => absurd h hx, fun _ => neg_neg_of_pos hf, fun h => absurd hs h.not_gt⟩
  · have hge := not_lt.mp hs
    exact ⟨hge, fun h => hf.trans_le (by rwa [abs_of_nonneg h] at hge), id, fun _ => rfl⟩

/-- **rcp_safe is finite and sign-correct for every x**, for any reciprocal `rcp` that is accurate to a relative error
    `η < 1` on non-zero arguments (either build: `η = 2⁻²⁰` by the theorems above). Finite is the bound `(1+η)/FLT_MIN`;
    zeros of either sign give a positive result. -/
theorem rcp_safe_sign (hf : 0 < E.fmin) (rcp : α → α) (η : α) (hη : η < 1)
    (hr : ∀ y, y ≠ 0 → |rcp y * y - 1| ≤ η) (x : α) :
    |@rcp_safe α 𝔽 rcp x| ≤ (1 + η) / E.fmin ∧ (0 ≤ x → 0 < @rcp_safe α 𝔽 rcp x) ∧ (x < 0 → @rcp_safe α 𝔽 rcp x < 0) := by
  obtain ⟨hmag, hpos, hneg, -⟩ := rcp_safe_arg_spec E hf x
  unfold rcp_safe
  generalize @rcp_safe_arg α 𝔽 x = y at hmag hpos hneg
  have hb := hr y (abs_pos.mp (hf.trans_le hmag))
  have hprod := pos_of_abs_sub_one_le hb hη
  refine ⟨?_, fun hx => (pos_iff_pos_of_mul_pos hprod).mpr (hpos hx),
    fun hx => (neg_iff_neg_of_mul_pos hprod).mpr (hneg hx)⟩
  rw [le_div_iff₀ hf]
  exact (mul_le_mul_of_nonneg_left hmag (abs_nonneg _)).trans ((abs_mul _ _).symm.trans_le (abs_le_one_add hb))

/-- `clamp` returns a value inside `[lower, upper]` that equals `x` whenever `x` is inside. -/
theorem clamp_spec (x lo hi : α) (h : lo ≤ hi) :
    lo ≤ @clamp α 𝔽 x lo hi ∧ @clamp α 𝔽 x lo hi ≤ hi ∧ (lo ≤ x → x ≤ hi → @clamp α 𝔽 x lo hi = x) := by
  rw [clamp_eq]
  refine ⟨le_max_right _ _, max_le (min_le_right _ _) h, fun h1 h2 => ?_⟩
  rw [min_eq_left h2, max_eq_left h1]

theorem clamp_outside (x lo hi : α) (h : lo ≤ hi) :
    (x ≤ lo → @clamp α 𝔽 x lo hi = lo) ∧ (hi ≤ x → @clamp α 𝔽 x lo hi = hi) := by
  rw [clamp_eq]
  constructor
  · intro h1; rw [min_eq_left (le_trans h1 h), max_eq_right h1]
  · intro h1; rw [min_eq_right h1, max_eq_left h]

theorem sign_def (x : α) :
    (x < 0 → @sign α 𝔽 x = -1) ∧ (0 ≤ x → @sign α 𝔽 x = 1) ∧ @sign α 𝔽 x * |x| = x := by
  rw [sign_eq]
  split_ifs with h
  · exact ⟨fun _ => rfl, fun h' => absurd h h'.not_gt, by rw [abs_of_neg h, neg_one_mul, neg_neg]⟩
  · exact ⟨fun h' => absurd h' h, fun _ => rfl, by rw [abs_of_nonneg (not_lt.mp h), one_mul]⟩

theorem lerp_def (f a b : α) :
    @lerp α 𝔽 f a b = (1 - f) * a + f * b ∧ @lerp α 𝔽 f a b = a + f * (b - a) ∧
    @lerp α 𝔽 0 a b = a ∧ @lerp α 𝔽 1 a b = b := by
  refine ⟨lerp_eq E f a b, ?_, ?_, ?_⟩ <;> rw [lerp_eq] <;> ring

theorem lerp_between (f a b : α) (h0 : 0 ≤ f) (h1 : f ≤ 1) (hab : a ≤ b) :
    a ≤ @lerp α 𝔽 f a b ∧ @lerp α 𝔽 f a b ≤ b := by
  rw [(lerp_def E f a b).2.1]
  exact affine_mem ⟨h0, h1⟩ hab

/-- `deg2rad` is multiplication by the decimal constant of the source; that the constant stands for π/180 is shown to
    15 digits: `deg2rad 180` lies between two decimal bounds of π. -/
theorem deg2rad_def (x : α) :
    @deg2rad α 𝔽 x = x * (1745329251994329576923690768489 / 100000000000000000000000000000000) ∧
    (314159265358979 / 100000000000000 < @deg2rad α 𝔽 180 ∧ @deg2rad α 𝔽 180 < 314159265358980 / 100000000000000) := by
  refine ⟨deg2rad_eq E x, ?_, ?_⟩ <;> rw [deg2rad_eq] <;> norm_num

theorem madd_def (a b c : α) : @madd α 𝔽 a b c = a * b + c := rfl

theorem cvt_monotone (rnd : α → Nat) (hrm : ∀ a b, a ≤ b → rnd a ≤ rnd b) (x y : α) (h : x ≤ y) :
    @cvt_uint32 α 𝔽 rnd x ≤ @cvt_uint32 α 𝔽 rnd y := by
  rw [cvt_uint32_eq, cvt_uint32_eq, clamp_eq, clamp_eq]
  exact hrm _ _ (mul_le_mul_of_nonneg_left (max_le_max (min_le_min h le_rfl) le_rfl) (by norm_num))

theorem cvt_saturating (rnd : α → Nat) (hrm : ∀ a b, a ≤ b → rnd a ≤ rnd b) (hr0 : rnd 0 = 0) (hr255 : rnd 255 = 255) (x : α) :
    (x ≤ 0 → @cvt_uint32 α 𝔽 rnd x = 0) ∧ (1 ≤ x → @cvt_uint32 α 𝔽 rnd x = 255) ∧ @cvt_uint32 α 𝔽 rnd x ≤ 255 := by
  rw [cvt_uint32_eq]
  obtain ⟨hlo, hhi⟩ := clamp_outside E x 0 1 zero_le_one
  refine ⟨fun h => by rw [hlo h, mul_zero, hr0], fun h => by rw [hhi h, mul_one, hr255], ?_⟩
  rw [← hr255]
  exact hrm _ _ (mul_le_of_le_one_right (by norm_num) (clamp_spec E x 0 1 zero_le_one).2.1)

/-- **monotone**: assuming `pow(·, 1/2.2)` monotone on `[0,∞)` and `round` monotone, a larger linear value never gets
    a smaller 8-bit sRGB value. -/
theorem srgb_monotone (rnd : α → Nat)
    (hpm : ∀ a b, 0 ≤ a → a ≤ b → E.pow a (5 / 11) ≤ E.pow b (5 / 11))
    (hrm : ∀ a b, a ≤ b → rnd a ≤ rnd b) (x y : α) (h : x ≤ y) :
    @srgb8 α 𝔽 rnd x ≤ @srgb8 α 𝔽 rnd y := by
  unfold srgb8
  apply cvt_monotone E rnd hrm
  rw [linear_to_srgb_eq, linear_to_srgb_eq]
  exact hpm _ _ (le_max_right _ _) (max_le_max h (le_refl _))

/-- **saturating**: 0 for inputs ≤ 0, 255 for inputs ≥ 1, always within 0…255. -/
theorem srgb_saturating (rnd : α → Nat)
    (hpm : ∀ a b, 0 ≤ a → a ≤ b → E.pow a (5 / 11) ≤ E.pow b (5 / 11))
    (hp0 : E.pow 0 (5 / 11) = 0) (hp1 : E.pow 1 (5 / 11) = 1)
    (hrm : ∀ a b, a ≤ b → rnd a ≤ rnd b) (hr0 : rnd 0 = 0) (hr255 : rnd 255 = 255) (x : α) :
    (x ≤ 0 → @srgb8 α 𝔽 rnd x = 0) ∧ (1 ≤ x → @srgb8 α 𝔽 rnd x = 255) ∧ @srgb8 α 𝔽 rnd x ≤ 255 := by
  unfold srgb8
  obtain ⟨c0, c1, c2⟩ := cvt_saturating E rnd hrm hr0 hr255 (@linear_to_srgb α 𝔽 x)
  refine ⟨fun h => c0 ?_, fun h => c1 ?_, c2⟩
  · rw [linear_to_srgb_eq, max_eq_right h, hp0]
  · rw [linear_to_srgb_eq, max_eq_left (le_trans (by norm_num) h), ← hp1]
    exact hpm _ _ (by norm_num) h

/-- `linear_to_srgba8` is `pack4` of four per-channel values, so `pack_per_channel` below applies to it. -/
theorem srgba8_channels (rnd : α → Nat) (x y z w : α) :
    @linear_to_srgba8 α 𝔽 rnd x y z w =
      pack4 (@srgb8 α 𝔽 rnd x) (@srgb8 α 𝔽 rnd y) (@srgb8 α 𝔽 rnd z) (@cvt_uint32 α 𝔽 rnd (max w 0)) := by
  rw [@srgba8_channels_gen α 𝔽 rnd x y z w]
  simp only [ofFieldX_ofNat, Nat.cast_zero]

/-- Exact arithmetic: for a raw draw `0 ≤ k < 2³²` and `lower ≤ upper` the value lies in
    `[lower, upper)`; it is `lower` when the range is a single point. -/
theorem biased_float_range (k : Nat) (hk : k < 4294967296) (lo hi : α) (h : lo ≤ hi) :
    lo ≤ @biased_float α 𝔽 k lo hi ∧ (lo < hi → @biased_float α 𝔽 k lo hi < hi) ∧
    (lo = hi → @biased_float α 𝔽 k lo hi = lo) ∧ @biased_float α 𝔽 k lo hi ≤ hi := by
  rw [biased_float_eq]
  have ht0 : (0 : α) ≤ (k : α) / 4294967296 := div_nonneg (Nat.cast_nonneg k) (by norm_num)
  have ht1 : (k : α) / 4294967296 < 1 := (div_lt_one (by norm_num)).mpr (by exact_mod_cast hk)
  obtain ⟨h0, h1⟩ := affine_mem ⟨ht0, ht1.le⟩ h
  exact ⟨h0, affine_lt ht1, fun heq => by rw [heq]; ring, h1⟩

/-- `pcg32_biased_float_distribution::operator()` with its float operations rounded: `t = fl(scale * float(k)) ∈ [0,1]`
    (scale is a power of two and `float(k) ≤ 2³²`), `diff = fl(upper - lower)`, `fl(fl(t*diff) + lower)`. -/
def biased_float_fl (t lo hi d1 d2 d3 : α) : α :=
  ((t * ((hi - lo) * (1 + d1))) * (1 + d2) + lo) * (1 + d3)

/-- Rounded form: under the standard model (`|dᵢ| ≤ u = 2⁻²⁴`, no under/overflow) the value leaves `[lower, upper]` by
    at most `6·u·M`, `M` a bound of `|lower|`, `|upper|` — a few units in the last place of the larger end point. -/
theorem biased_float_range_fl (t lo hi d1 d2 d3 M : α) (ht0 : 0 ≤ t) (ht1 : t ≤ 1) (h : lo ≤ hi)
    (hlo : |lo| ≤ M) (hhi : |hi| ≤ M)
    (h1 : |d1| ≤ 1 / 16777216) (h2 : |d2| ≤ 1 / 16777216) (h3 : |d3| ≤ 1 / 16777216) :
    lo - 6 * (1 / 16777216) * M ≤ biased_float_fl t lo hi d1 d2 d3 ∧
    biased_float_fl t lo hi d1 d2 d3 ≤ hi + 6 * (1 / 16777216) * M := by
  have hid : biased_float_fl t lo hi d1 d2 d3 = (lo + t * (hi - lo) * ((1 + d1) * (1 + d2))) * (1 + d3) := by
    unfold biased_float_fl; ring
  rw [hid]
  exact mem_of_abs_sub_le (affine_mem ⟨ht0, ht1⟩ h)
    (affine_fl_sub_le ⟨ht0, ht1⟩ h (abs_round_sub_one_le (abs_one_add_sub_one h1) h2) hlo hhi h3 (by norm_num))

/-- Exact arithmetic: driven by a 32-bit generator (`min ≤ g ≤ max`, `min < max < 2³²`) the distribution stays in
    `[l, u]`. -/
theorem uniform_real_range (l u : α) (gmin gmax g : Nat) (hmax : gmax < 4294967296)
    (h1 : gmin ≤ g) (h2 : g ≤ gmax) (h3 : gmin < gmax) (h : l ≤ u) :
    l ≤ @uniform_real α 𝔽 l u gmin gmax g ∧ @uniform_real α 𝔽 l u gmin gmax g ≤ u := by
  rw [uniform_real_eq, sub32_eq_sub h1 (by omega), sub32_eq_sub h3.le hmax]
  exact affine_mem (div_mem_unit (Nat.cast_nonneg _) (Nat.cast_le.mpr (Nat.sub_le_sub_right h2 gmin))
    (Nat.cast_pos.mpr (Nat.sub_pos_of_lt h3))) h

/-- `uniform_real_distribution<float>::operator()` with its float operations rounded: `kf = float(g − min)`,
    `mf = float(max − min)` (conversions rounded: `kf ≤ mf` because rounding is monotone),
    `scale = fl((u − l)/mf)`, `fl(l + fl(kf * scale))`. -/
def uniform_real_fl (l u kf mf d1 d2 d3 d4 : α) : α :=
  (l + (kf * (((u - l) * (1 + d1)) / mf * (1 + d2))) * (1 + d3)) * (1 + d4)

/-- Rounded form, valid when no operation underflows (standard model). NOTE the excluded case is real: when
    `(u − l)/2³²` is a denormal float the division's relative error is not bounded by `2⁻²⁴` and the real code returns
    values up to a third beyond `u` (known finding `C07-uniform-real-denormal-scale`; witness below). -/
theorem uniform_real_range_fl_partial (l u kf mf d1 d2 d3 d4 M : α) (hk0 : 0 ≤ kf) (hkm : kf ≤ mf) (hm : 0 < mf) (h : l ≤ u)
    (hl : |l| ≤ M) (hu : |u| ≤ M)
    (h1 : |d1| ≤ 1 / 16777216) (h2 : |d2| ≤ 1 / 16777216) (h3 : |d3| ≤ 1 / 16777216) (h4 : |d4| ≤ 1 / 16777216) :
    l - 8 * (1 / 16777216) * M ≤ uniform_real_fl l u kf mf d1 d2 d3 d4 ∧
    uniform_real_fl l u kf mf d1 d2 d3 d4 ≤ u + 8 * (1 / 16777216) * M := by
  have hid : uniform_real_fl l u kf mf d1 d2 d3 d4
      = (l + kf / mf * (u - l) * ((1 + d1) * (1 + d2) * (1 + d3))) * (1 + d4) := by
    unfold uniform_real_fl; ring
  rw [hid]
  have ht := div_mem_unit hk0 hkm hm
  exact mem_of_abs_sub_le (affine_mem ht h) (affine_fl_sub_le ht h
    (abs_round_sub_one_le (abs_round_sub_one_le (abs_one_add_sub_one h1) h2) h3) hl hu h4 (by norm_num))

/-- Witness of the known finding (numbers of the replay `urd 00000000 05400000 0 4294967295 4294967295`):
    `l = 0`, `u = 1.5·2⁻¹¹⁷`; the exact scale `u/2³² = 1.5·2⁻¹⁴⁹` is not a float — the nearest one (denormal grid, ties
    to even) is `2·2⁻¹⁴⁹`; with `float(g − min) = 2³²` the returned value `0 + 2³²·2·2⁻¹⁴⁹ = 2⁻¹¹⁶` exceeds `u` by a third. -/
theorem uniform_real_denormal_scale_witness :
    (0 : α) + 4294967296 * (2 / 2 ^ 149) = (4 / 3) * ((3 / 2) / 2 ^ 117) ∧
    (3 / 2 : α) / 2 ^ 117 < (0 : α) + 4294967296 * (2 / 2 ^ 149) := by
  constructor <;> norm_num

theorem randomColor_range (i : Nat) :
    let c := @makeRandomColor α 𝔽 i
    (0 ≤ c.1 ∧ c.1 ≤ 1) ∧ (0 ≤ c.2.1 ∧ c.2.1 ≤ 1) ∧ (0 ≤ c.2.2 ∧ c.2.2 ≤ 1) := by
  rw [makeRandomColor_eq]
  have key : ∀ (g m : Nat), 0 < m →
      (0 : α) ≤ ((g % (m + 1) : Nat) : α) / (m : α) ∧ ((g % (m + 1) : Nat) : α) / (m : α) ≤ 1 := fun g m hm =>
    div_mem_unit (Nat.cast_nonneg _) (Nat.cast_le.mpr (Nat.lt_succ_iff.mp (Nat.mod_lt g m.succ_pos))) (Nat.cast_pos.mpr hm)
  exact ⟨key _ 9502 (by norm_num), key _ 318 (by norm_num), key _ 10142 (by norm_num)⟩

end field

/-- For `a ≥ 0`, `b > 0` (mathematical integers, C's truncating division) `divRoundUp a b` is the least
    `q` with `q·b ≥ a`. -/
theorem divRoundUp_least (a b : Int) (ha : 0 ≤ a) (hb : 0 < b) :
    a ≤ divRoundUp a b * b ∧ ∀ q' : Int, a ≤ q' * b → divRoundUp a b ≤ q' :=
  ⟨(divRoundUp_le_iff ha hb _).mp (Int.le_refl _), fun q' => (divRoundUp_le_iff ha hb q').mpr⟩

theorem wrap32_id (y : Int) (h0 : -2147483648 ≤ y) (h1 : y < 2147483648) : wrap32 y = y := by
  unfold wrap32
  simp only
  split <;> omega

/-- The 32-bit `int` instantiation computes the same value as long as the FIRST intermediate `a + b` (the expression
    is `(a + b - 1) / b`) is representable: the no-overflow side condition is `a + b < 2³¹` (not merely
    `a + b − 1 < 2³¹`: `divRoundUp(1, INT_MAX)` overflows in `a + b` although the result 1 is representable). -/
theorem divRoundUp32_eq (a b : Int) (ha : 0 ≤ a) (hb : 0 < b) (hov : a + b < 2147483648) :
    divRoundUp32 a b = divRoundUp a b := by
  obtain ⟨h0, h1⟩ := divRoundUp_mem ha hb
  unfold divRoundUp32
  rw [wrap32_id (a + b) (by omega) hov, wrap32_id (a + b - 1) (by omega) (by omega)]
  exact wrap32_id (divRoundUp a b) (by omega) (by omega)

theorem divRoundUp32_least (a b : Int) (ha : 0 ≤ a) (hb : 0 < b) (hov : a + b < 2147483648) :
    a ≤ divRoundUp32 a b * b ∧ ∀ q' : Int, a ≤ q' * b → divRoundUp32 a b ≤ q' := by
  rw [divRoundUp32_eq a b ha hb hov]; exact divRoundUp_least a b ha hb

/-- For the 8- and 16-bit element types the expression `(a + b - 1) / b` is evaluated in `int`
    (integral promotion), where `a + b - 1 < 2¹⁷` cannot overflow, and its value is at most `a`, i.e.
    it fits the narrow type it is converted back to: the narrow instantiations compute exactly `divRoundUp a b`, the
    least `q` with `q·b ≥ a`. (Truncating the intermediate sum to the narrow type, `a += b - 1`, does not.) -/
theorem divRoundUp_narrow (a b top : Int) (ha : 0 ≤ a) (hb : 0 < b) (hat : a ≤ top) (hbt : b ≤ top) (ht : top ≤ 65535) :
    divRoundUp32 a b = divRoundUp a b ∧ 0 ≤ divRoundUp a b ∧ divRoundUp a b ≤ top :=
  have ⟨h0, h1⟩ := divRoundUp_mem ha hb
  ⟨divRoundUp32_eq a b ha hb (by omega), h0, Int.le_trans h1 hat⟩

-- what the truncating variant computes for uint8_t: (255 + 2 - 1) mod 256 / 2 = 0, not 128
example : divRoundUp 255 2 = 128 ∧ Int.tdiv ((255 + 2 - 1) % 256) 2 = 0 := by decide

/-- For channel values below 256, byte `k` of `c₀ | c₁<<8 | c₂<<16 | c₃<<24` is `c_k`. -/
theorem pack_per_channel (c0 c1 c2 c3 : Nat) (h0 : c0 < 256) (h1 : c1 < 256) (h2 : c2 < 256) (h3 : c3 < 256) :
    byteOf (pack4 c0 c1 c2 c3) 0 = c0 ∧ byteOf (pack4 c0 c1 c2 c3) 1 = c1 ∧
    byteOf (pack4 c0 c1 c2 c3) 2 = c2 ∧ byteOf (pack4 c0 c1 c2 c3) 3 = c3 := by
  rw [pack4_eq_digits h0 h1 h2 h3]
  simp only [byteOf_digit_succ, byteOf_digit_zero, h0, h1, h2, h3, and_self]

/-! ## non-vacuity: the hypotheses used above are satisfiable, the definitions are not degenerate -/
section examples

/-- a concrete instance over any field: FLT_MIN = 2⁻¹²⁶, identity for pow/sqrt (enough to run the examples) -/
def exE (α : Type) [Field α] : Ext α := { fmin := 1 / 2 ^ 126, pow := fun a _ => a, sqrt := fun a => a }

variable {α : Type} [Field α] [LinearOrder α] [IsStrictOrderedRing α]

-- rcp: x = 3, estimate r = 1/3·(1 + 2⁻¹²) satisfies the estimate hypothesis, so the theorem applies
example : |((1 + 1 / 4096) / 3 : α) * 3 - 1| ≤ 3 / 8192 := by norm_num
example : |@rcp_simd α (CNum.ofFieldX α (exE α)) 3 ((1 + 1 / 4096) / 3) * 3 - 1| ≤ 1 / 1048576 :=
  rcp_nr_error_exact (exE α) 3 _ (by norm_num)
-- and without the Newton step the bound would fail: the estimate alone is off by 2⁻¹² > 2⁻²⁰
example : ¬ |((1 + 1 / 4096) / 3 : α) * 3 - 1| ≤ 1 / 1048576 := by norm_num
-- rsqrt: x = 4 = 2·2, r = (1 - 2⁻¹²)/2
example : |@rsqrt_simd α (CNum.ofFieldX α (exE α)) 4 ((1 - 1 / 4096) / 2) * 2 - 1| ≤ 1 / 1048576 :=
  rsqrt_nr_error_exact (exE α) 4 _ 2 (by norm_num) (by norm_num)
-- rcp_safe with the exact reciprocal: zero maps to +1/FLT_MIN, a negative denormal to −1/FLT_MIN
example : @rcp_safe α (CNum.ofFieldX α (exE α)) (fun y => 1 / y) 0 = 2 ^ 126 := by
  simp [rcp_safe, rcp_safe_arg_eq, exE]
example : @rcp_safe α (CNum.ofFieldX α (exE α)) (fun y => 1 / y) (-(1 / 2 ^ 140)) = -(2 ^ 126) := by
  norm_num [rcp_safe, rcp_safe_arg_eq, exE, abs_of_pos]
-- the hypothesis `hr` of `rcp_safe_sign` is met by the exact reciprocal with η = 0
example : (∀ y : α, y ≠ 0 → |(fun y => 1 / y) y * y - 1| ≤ 0) := by
  intro y hy; simp [hy]
example : divRoundUp 10 3 = 4 ∧ divRoundUp 9 3 = 3 ∧ divRoundUp 0 7 = 0 ∧ divRoundUp32 2147483646 1 = 2147483646 := by decide
example : pack4 0x12 0x34 0x56 0x78 = 0x78563412 := by decide
-- the 32-bit side condition matters: beyond it the machine value differs from the mathematical one
example : divRoundUp32 2147483647 2147483647 ≠ divRoundUp 2147483647 2147483647 := by decide
-- biased distribution: k = 2³²−1 in [0,1) stays strictly below upper
example : @biased_float α (CNum.ofFieldX α (exE α)) 4294967295 0 1 < 1 :=
  ((biased_float_range (exE α) 4294967295 (by norm_num) 0 1 (by norm_num)).2.1 (by norm_num))

end examples

end RkVerif.C07
