/-
  C16 — XML reading is total, memory-safe and faithful on its supported subset.
  Property theorems about the model `RkVerif.Model.C16` (XML.cpp with
  fixes/C16-parsestring-terminator.patch applied).  `readXML b` is the model of
  `rkcommon::xml::readXML` on a file whose bytes are `b`; the buffer the parser works on is `b`
  followed by one 0 byte.  All three safety theorems quantify over EVERY byte array.
-/
import RkVerif.Lemmas.C16Doc
namespace RkVerif.C16

/-- a decidable observation of a result, for the witnesses below -/
def errOf {α : Type} : Except Err α → Option Err
  | .ok _ => none
  | .error e => some e

/-- **xml_error_kind** — for every byte string, the call returns a document or throws
    `std::runtime_error`; there is no other outcome. -/
theorem xml_error_kind (b : Array UInt8) :
    (∃ doc, readXML b = .ok doc) ∨ readXML b = .error .runtimeError := by
  have h := parseXMLWith_post (parseString_ok b) (Nat.le_refl _)
  unfold readXML
  unfold Post at h
  split at h
  · next a s' heq => left; rw [heq]; exact ⟨a, rfl⟩
  · next e heq => right; rw [heq, h]

/-- **xml_in_bounds** — for every byte string, no read of a byte (`*s`, `s[k]`, `end[-1]`) leaves
    `[buffer, buffer + numBytes]`: in the model these go through `rd`, which answers `outOfBounds`
    beyond the terminator, and `trimBack` answers it before the buffer.  The `memcpy` of
    `makeString` is `Array.extract` in the model, which cannot answer `outOfBounds`; its range lies
    between two cursor values, and that every cursor stays `≤ b.size` is what the safety lemmas
    carry along (`Post`), not what this statement says. -/
theorem xml_in_bounds (b : Array UInt8) : readXML b ≠ .error .outOfBounds := by
  rcases xml_error_kind b with ⟨d, h⟩ | h <;> simp [h]

/-- **xml_total** — for every byte string, fuel `len + 2` never runs out: every loop iteration and
    every recursive `parseNode` call (one unit of fuel each) advances the cursor, which never
    passes the terminator.  (A nested `parseNode` call takes a unit of the same fuel, so in the model
    nesting deeper than `len + 2` would be `outOfFuel` too; no theorem speaks of the C++ stack.) -/
theorem xml_total (b : Array UInt8) : readXML b ≠ .error .outOfFuel := by
  rcases xml_error_kind b with ⟨d, h⟩ | h <;> simp [h]

/-- all three at once -/
theorem xml_safe (b : Array UInt8) : errOf (readXML b) = none ∨ errOf (readXML b) = some .runtimeError := by
  rcases xml_error_kind b with ⟨d, h⟩ | h <;> simp [h, errOf]

/-! ### non-vacuity: both outcomes occur -/
-- `<a b="x"/>` parses; `<a b="x` is a runtime_error (fixed code)
example : errOf (readXML #[60, 97, 32, 98, 61, 34, 120, 34, 47, 62]) = none := by decide +kernel
example : errOf (readXML #[60, 97, 32, 98, 61, 34, 120]) = some .runtimeError := by decide +kernel
example : errOf (readXML #[]) = none := by decide +kernel

/-! ### the defect of the unrepaired code (DESIGN §9): `parseString` without the terminator test
    runs past the end of the buffer — `xml_in_bounds` is false for `readXMLOrig`. -/
/-- `<a b="u` : unterminated double-quoted value -/
theorem orig_unterminated_dq_out_of_bounds :
    errOf (readXMLOrig #[60, 97, 32, 98, 61, 34, 117]) = some .outOfBounds := by decide +kernel
/-- `<a b='` : unterminated single-quoted value -/
theorem orig_unterminated_sq_out_of_bounds :
    errOf (readXMLOrig #[60, 97, 32, 98, 61, 39]) = some .outOfBounds := by decide +kernel
/-- `<a b="\` : the backslash makes the loop step over the terminator itself -/
theorem orig_backslash_before_terminator_out_of_bounds :
    errOf (readXMLOrig #[60, 97, 32, 98, 61, 34, 92]) = some .outOfBounds := by decide +kernel
/-- `<?xml v="` : the same in the header -/
theorem orig_header_unterminated_out_of_bounds :
    errOf (readXMLOrig #[60, 63, 120, 109, 108, 32, 118, 61, 34]) = some .outOfBounds := by decide +kernel
/-- the fixed reader on the same inputs: runtime_error -/
example : errOf (readXML #[60, 97, 32, 98, 61, 34, 117]) = some .runtimeError := by decide +kernel
example : errOf (readXML #[60, 97, 32, 98, 61, 34, 92]) = some .runtimeError := by decide +kernel


/-! ### faithfulness on the documented subset

`Doc` (Model) is a source tree with every layout choice the reader accepts: identifier names,
properties in either quote style (values: any bytes but NUL / the quote / a lone backslash;
backslash pairs such as `\"` are kept verbatim), whitespace after the tag name, around `=`,
after each property and after each item, self-closing and open/close elements, at most one text
run per element anywhere among its children (non-empty, no `<`, its own trimmed form), comments
`<!…-->` between items and at top level, several top-level elements, optional `<?xml?>` or
`<?xml … ?>` header.  `docOK` is the (decidable) membership test, `printDoc` writes the bytes,
`eraseDoc` forgets the layout: names, property map (`properties[key] = value` in order, so a
repeated key keeps its last value), text, children in order. -/

/-- **xml_roundtrip** — for every well-formed source document (any depth, any fan-out, any layout),
    reading the printed bytes returns exactly its tree. -/
theorem xml_roundtrip (d : Doc) (h : docOK d = true) :
    readXML (printDoc d).toArray = .ok (eraseDoc d) := by
  unfold readXML
  rw [parseXML_ev d h (by simp) (by simpa using Suf.zero (printDoc d).toArray)]

/-- the element-level form -/
theorem xml_roundtrip_elem (e : Elem) (he : elemOK e = true) (b : Array UInt8) (s f : Nat) (t : Bytes)
    (h : Suf b s (printElem e ++ t)) (hf : b.size - s + 1 ≤ f) :
    parseNode f b s = .ok (eraseElem e, s + (printElem e).length) :=
  parseNode_ev f e he (by omega) h

theorem setProp_fresh (acc : List (Bytes × Bytes)) (k v : Bytes) (h : k ∉ acc.map Prod.fst) :
    setProp acc k v = acc ++ [(k, v)] := by
  induction acc with
  | nil => rfl
  | cons kv rest ih =>
    simp only [List.map_cons, List.mem_cons, not_or] at h
    rw [setProp, if_neg (by simpa using Ne.symm h.1), ih h.2]; rfl

/-- with pairwise distinct keys the property map is the list of (key, value) in document order -/
theorem propsOf_distinct (attrs : List Attr) : ∀ (acc : List (Bytes × Bytes)),
    (acc.map Prod.fst ++ attrs.map Attr.key).Nodup →
    propsOf acc attrs = acc ++ attrs.map (fun a => (a.key, a.val)) := by
  induction attrs with
  | nil => intro acc _; simp [propsOf]
  | cons a as ih =>
    intro acc hnd
    have hfresh : a.key ∉ acc.map Prod.fst := fun hm =>
      (List.nodup_append.1 hnd).2.2 _ hm _ (List.mem_cons_self ..) rfl
    rw [propsOf, setProp_fresh acc a.key a.val hfresh, ih, List.append_assoc]
    · rfl
    · rw [List.map_append, List.append_assoc]; exact hnd

/-! non-vacuity: a well-formed document using every feature (header with a property, comment at top
    level, both quote styles, a backslash pair, duplicate key, comment / self-closing child / text /
    open-close child inside an element), its printed form and its tree -/
def exAttr1 : Attr := { key := [107], val := [118, 32, 49], dq := true, ws1 := [], ws2 := [32], ws3 := [32] }
def exAttr2 : Attr := { key := [107], val := [119, 92, 39, 34], dq := false, ws1 := [32], ws2 := [], ws3 := [] }
def exElem : Elem :=
  .node [97] [32] [exAttr1, exAttr2] [10]
    (.comment [45, 45, 32, 104, 105, 32, 45, 62, 45, 45] [32]
      (.child (.selfClose [98] [] []) []
        (.text [115, 111, 109, 101, 32, 116, 101, 120, 116] [32, 32]
          (.child (.node [99, 46, 100] [] [] [] .nil) [10] .nil))))
def exDoc : Doc :=
  { header := .long [32] [exAttr1], initWs := [10], tops := [.comment [120] [32], .elem exElem [10]] }

example : docOK exDoc = true := by decide +kernel
-- `<?xml k= "v 1" ?>\n<!x--> <a k= "v 1" k ='w\'"'>\n<!-- hi ->----> <b/>some text  <c.d></c.d>\n</a>\n`
example : (printDoc exDoc).length = 96 := by decide +kernel
example : errOf (readXML (printDoc exDoc).toArray) = none := by decide +kernel
example : readXML (printDoc exDoc).toArray = .ok (eraseDoc exDoc) := xml_roundtrip exDoc (by decide +kernel)
example : (eraseDoc exDoc).map (·.name) = [[97]] ∧ (eraseDoc exDoc).map (·.content) = [[115, 111, 109, 101, 32, 116, 101, 120, 116]]
    ∧ (eraseDoc exDoc).map (·.props) = [[([107], [119, 92, 39, 34])]]
    ∧ (eraseDoc exDoc).map (fun n => n.children.map (·.name)) = [[[98], [99, 46, 100]]] := by decide +kernel

end RkVerif.C16
