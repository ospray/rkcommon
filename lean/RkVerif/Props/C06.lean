/-
Property C06 — linear, affine and quaternion transforms obey their algebra and agree.
The theorems are about the definitions in RkVerif/Gen/C06.lean, which tools/cpp2lean.py
regenerates from /repo's LinearSpace.h / AffineSpace.h / Quaternion.h on every run (wrappers: tr/c06_drv.cpp).
All statements are over an arbitrary linearly ordered field; sin/cos/sqrt/acos are abstract functions
(`Transc`) and each theorem states as a hypothesis what it uses of them (s²+c²=1, (√x)²=x, the square-root law
`SqrtLaw`, …).
"Within a tolerance derived from the condition number" is the floating-point reading of these exact
identities; that part is observed by the correspondence check, not proved.
-/
import RkVerif.Lemmas.C06
import Mathlib.Analysis.Real.Sqrt

open RkVerif RkVerif.Gen.C06

namespace RkVerif.C06
variable {α : Type} [Field α] [LinearOrder α] [IsStrictOrderedRing α] (E : Transc α)
local notation "𝔽" => CNum.ofFieldT α E

/-! ## determinant, adjoint, transpose, rows: match their definitions -/

theorem l2_det_def (m : Lin2 α) : @l2_det α 𝔽 m = m.vx.x * m.vy.y - m.vx.y * m.vy.x := by
  simp only [gen_simp]
theorem l3_det_def (m : Lin3 α) : @l3_det α 𝔽 m = dot3 m.vx (cross3 m.vy m.vz) := by
  simp only [gen_simp, dot3, cross3]
theorem l2_transposed_def (m : Lin2 α) : @l2_transposed α 𝔽 m = ⟨⟨m.vx.x, m.vy.x⟩, ⟨m.vx.y, m.vy.y⟩⟩ := by
  simp only [gen_simp]
theorem l3_transposed_def (m : Lin3 α) : @l3_transposed α 𝔽 m =
    ⟨⟨m.vx.x, m.vy.x, m.vz.x⟩, ⟨m.vx.y, m.vy.y, m.vz.y⟩, ⟨m.vx.z, m.vy.z, m.vz.z⟩⟩ := by
  simp only [gen_simp]
theorem l2_rows_def (m : Lin2 α) : @l2_row0 α 𝔽 m = ⟨m.vx.x, m.vy.x⟩ ∧ @l2_row1 α 𝔽 m = ⟨m.vx.y, m.vy.y⟩ := by
  simp only [gen_simp, and_self]
theorem l3_rows_def (m : Lin3 α) : @l3_row0 α 𝔽 m = ⟨m.vx.x, m.vy.x, m.vz.x⟩ ∧
    @l3_row1 α 𝔽 m = ⟨m.vx.y, m.vy.y, m.vz.y⟩ ∧ @l3_row2 α 𝔽 m = ⟨m.vx.z, m.vy.z, m.vz.z⟩ := by
  simp only [gen_simp, and_self]
/-- adjoint is the transposed cofactor matrix: m · adj(m) = adj(m) · m = det(m) · 1 -/
theorem l3_mul_adjoint (m : Lin3 α) : @l3_mul α 𝔽 m (@l3_adjoint α 𝔽 m) = dI3 (@l3_det α 𝔽 m) ∧
    @l3_mul α 𝔽 (@l3_adjoint α 𝔽 m) m = dI3 (@l3_det α 𝔽 m) := by
  obtain ⟨⟨a,b,c⟩,⟨d,e,f⟩,⟨g,i,j⟩⟩ := m
  simp only [l3_mul_cols, l3_apply_eq, l3_adjoint, Lin3_adjoint, Lin3_mk_Vec3_Vec3_Vec3, Lin3_transposed,
    Lin3_mk_S_S_S_S_S_S_S_S_S, Vec3_mk_S_S_S, l3_det_def, cross_eq, dot3, cross3, dI3, Lin3.mk.injEq, Vec3.mk.injEq]
  -- the first entry of adj(m)·m unfolds to the determinant as the code writes it
  refine ⟨⟨⟨?_, ?_, ?_⟩, ⟨?_, ?_, ?_⟩, ?_, ?_, ?_⟩, ⟨trivial, ?_, ?_⟩, ⟨?_, ?_, ?_⟩, ?_, ?_, ?_⟩ <;> ring
theorem l2_mul_adjoint (m : Lin2 α) : @l2_mul α 𝔽 m (@l2_adjoint α 𝔽 m) = dI2 (@l2_det α 𝔽 m) ∧
    @l2_mul α 𝔽 (@l2_adjoint α 𝔽 m) m = dI2 (@l2_det α 𝔽 m) := by
  obtain ⟨⟨a,b⟩,⟨c,d⟩⟩ := m
  simp only [l2_mul_cols, l2_apply_eq, l2_det_def, l2_adjoint, Lin2_adjoint, Lin2_mk_S_S_S_S, Vec2_mk_S_S, dI2, Lin2.mk.injEq,
    Vec2.mk.injEq]
  refine ⟨⟨⟨?_, ?_⟩, ?_, ?_⟩, ⟨?_, ?_⟩, ?_, ?_⟩ <;> ring

/-! ## M·inverse(M) = inverse(M)·M = 1 -/

theorem l3_mul_inverse (m : Lin3 α) (h : @l3_det α 𝔽 m ≠ 0) :
    @l3_mul α 𝔽 m (@l3_inverse α 𝔽 m) = I3 ∧ @l3_mul α 𝔽 (@l3_inverse α 𝔽 m) m = I3 := by
  rw [l3_inverse_eq, l3_mul_div, l3_div_mul, (l3_mul_adjoint E m).1, (l3_mul_adjoint E m).2, l3_div_dI3 h]
  exact ⟨rfl, rfl⟩

theorem l2_mul_inverse (m : Lin2 α) (h : @l2_det α 𝔽 m ≠ 0) :
    @l2_mul α 𝔽 m (@l2_inverse α 𝔽 m) = I2 ∧ @l2_mul α 𝔽 (@l2_inverse α 𝔽 m) m = I2 := by
  rw [l2_inverse_eq, l2_mul_div, l2_div_mul, (l2_mul_adjoint E m).1, (l2_mul_adjoint E m).2, l2_div_dI2 h]
  exact ⟨rfl, rfl⟩

theorem rcp_is_inverse (m : Lin3 α) (n : Lin2 α) :
    @l3_rcp α 𝔽 m = @l3_inverse α 𝔽 m ∧ @l2_rcp α 𝔽 n = @l2_inverse α 𝔽 n := by
  simp only [gen_simp, and_self]

/-! ## det is multiplicative; (A·B)p = A(Bp) -/

theorem l3_det_mul (a b : Lin3 α) : @l3_det α 𝔽 (@l3_mul α 𝔽 a b) = @l3_det α 𝔽 a * @l3_det α 𝔽 b := by
  simp only [l3_det_def, dot3, cross3, l3_mul_cols, l3_apply_eq]; ring
theorem l2_det_mul (a b : Lin2 α) : @l2_det α 𝔽 (@l2_mul α 𝔽 a b) = @l2_det α 𝔽 a * @l2_det α 𝔽 b := by
  simp only [l2_det_def, l2_mul_cols, l2_apply_eq]; ring
theorem l3_mul_apply (a b : Lin3 α) (v : Vec3 α) :
    @l3_apply α 𝔽 (@l3_mul α 𝔽 a b) v = @l3_apply α 𝔽 a (@l3_apply α 𝔽 b v) := by
  -- a·b has the columns a(b_i), and a is linear
  rw [l3_apply_cols (@l3_mul α 𝔽 a b), l3_apply_cols b, l3_mul_cols, l3_apply_add, l3_apply_add, l3_apply_smul, l3_apply_smul,
    l3_apply_smul]
theorem l2_mul_apply (a b : Lin2 α) (v : Vec2 α) :
    @l2_apply α 𝔽 (@l2_mul α 𝔽 a b) v = @l2_apply α 𝔽 a (@l2_apply α 𝔽 b v) := by
  simp only [l2_mul_cols, l2_apply_eq, Vec2.mk.injEq]; refine ⟨?_, ?_⟩ <;> ring
theorem l3_apply_def (a : Lin3 α) (v : Vec3 α) : @l3_apply α 𝔽 a v =
    ⟨v.x * a.vx.x + v.y * a.vy.x + v.z * a.vz.x, v.x * a.vx.y + v.y * a.vy.y + v.z * a.vz.y,
     v.x * a.vx.z + v.y * a.vy.z + v.z * a.vz.z⟩ :=
  l3_apply_eq a v

/-! ## xfmPoint / xfmVector / xfmNormal: full map, linear part, inverse transpose -/

/- For a linear map the code's xfmPoint has the body of xfmVector, and xfmNormal m is by definition xfmVector of
   transposed(inverse m); the affine xfmVector / xfmNormal pass to the linear part. So one lemma about xfmVector
   (`l3_xfmVector_eq`) proves every conjunct but the affine xfmPoint. -/
theorem l3_xfm_def (m : Lin3 α) (p : Vec3 α) :
    @l3_xfmPoint α 𝔽 m p = @l3_apply α 𝔽 m p ∧ @l3_xfmVector α 𝔽 m p = @l3_apply α 𝔽 m p ∧
    @l3_xfmNormal α 𝔽 m p = @l3_apply α 𝔽 (@l3_transposed α 𝔽 (@l3_inverse α 𝔽 m)) p :=
  ⟨l3_xfmVector_eq m p, l3_xfmVector_eq m p, l3_xfmVector_eq _ p⟩
theorem a3_xfm_def (m : Aff3 α) (p : Vec3 α) :
    @a3_xfmPoint α 𝔽 m p = ⟨(@l3_apply α 𝔽 m.l p).x + m.p.x, (@l3_apply α 𝔽 m.l p).y + m.p.y, (@l3_apply α 𝔽 m.l p).z + m.p.z⟩ ∧
    @a3_xfmVector α 𝔽 m p = @l3_apply α 𝔽 m.l p ∧
    @a3_xfmNormal α 𝔽 m p = @l3_apply α 𝔽 (@l3_transposed α 𝔽 (@l3_inverse α 𝔽 m.l)) p :=
  ⟨a3_xfmPoint_eq m p, l3_xfmVector_eq m.l p, l3_xfmVector_eq _ p⟩

/-! ## affine maps: composition, inverse -/

theorem a3_mul_apply (a b : Aff3 α) (p : Vec3 α) :
    @a3_xfmPoint α 𝔽 (@a3_mul α 𝔽 a b) p = @a3_xfmPoint α 𝔽 a (@a3_xfmPoint α 𝔽 b p) := by
  simp only [a3_xfmPoint_eq, a3_mul_eq, l3_mul_apply, l3_apply_add, v3_add_assoc]

theorem a3_rcp_mul (a : Aff3 α) (h : @l3_det α 𝔽 a.l ≠ 0) : @a3_mul α 𝔽 (@a3_rcp α 𝔽 a) a = A1 := by
  rw [a3_mul_eq, a3_rcp_eq, (l3_mul_inverse E a.l h).2, v3_add_neg]; rfl

theorem a3_mul_rcp (a : Aff3 α) (h : @l3_det α 𝔽 a.l ≠ 0) : @a3_mul α 𝔽 a (@a3_rcp α 𝔽 a) = A1 := by
  rw [a3_mul_eq, a3_rcp_eq, l3_apply_neg, ← l3_mul_apply, (l3_mul_inverse E a.l h).1, l3_apply_I3, v3_neg_add]; rfl

theorem a3_div_def (a b : Aff3 α) : @a3_div α 𝔽 a b = @a3_mul α 𝔽 a (@a3_rcp α 𝔽 b) := by
  simp only [gen_simp]

/-! ## scale, translate, one, rotate-about-a-point: exactly the documented axes and origin -/

theorem scale_translate_def (s p : Vec3 α) :
    @l3_scale α 𝔽 s = ⟨⟨s.x,0,0⟩,⟨0,s.y,0⟩,⟨0,0,s.z⟩⟩ ∧ @a3_scale α 𝔽 s = ⟨⟨⟨s.x,0,0⟩,⟨0,s.y,0⟩,⟨0,0,s.z⟩⟩, ⟨0,0,0⟩⟩ ∧
    @a3_translate α 𝔽 p = ⟨I3, p⟩ ∧ (@l3_one α 𝔽) = I3 ∧ (@a3_one α 𝔽) = A1 := by
  simp only [gen_simp, ofFieldT_ofNat, Nat.cast_zero, Nat.cast_one, I3, A1, and_self]
theorem scale_translate2_def (s p : Vec2 α) :
    @l2_scale α 𝔽 s = ⟨⟨s.x,0⟩,⟨0,s.y⟩⟩ ∧ @a2_scale α 𝔽 s = ⟨⟨⟨s.x,0⟩,⟨0,s.y⟩⟩, ⟨0,0⟩⟩ ∧
    @a2_translate α 𝔽 p = ⟨I2, p⟩ ∧ (@l2_one α 𝔽) = I2 := by
  simp only [gen_simp, ofFieldT_ofNat, Nat.cast_zero, Nat.cast_one, I2, and_self]
theorem a3_rotate_def (u : Vec3 α) (r : α) : @a3_rotate α 𝔽 u r = ⟨@l3_rotate α 𝔽 u r, ⟨0,0,0⟩⟩ :=
  a3_from_linear_eq _
theorem a3_rotate_about_fixes (p u : Vec3 α) (r : α) :
    (@a3_rotate_about α 𝔽 p u r).l = @l3_rotate α 𝔽 u r ∧ @a3_xfmPoint α 𝔽 (@a3_rotate_about α 𝔽 p u r) p = p := by
  have h := a3_conj_translate (E := E) (@l3_rotate α 𝔽 u r) p
  rwa [← a3_rotate_def E u r] at h

theorem a2_rotate_about_fixes (p : Vec2 α) (r : α) :
    (@a2_rotate_about α 𝔽 p r).l = @l2_rotate α 𝔽 r ∧
    (@l2_apply α 𝔽 (@a2_rotate_about α 𝔽 p r).l p).x + (@a2_rotate_about α 𝔽 p r).p.x = p.x ∧
    (@l2_apply α 𝔽 (@a2_rotate_about α 𝔽 p r).l p).y + (@a2_rotate_about α 𝔽 p r).p.y = p.y := by
  have h := a2_conj_translate (E := E) (@l2_rotate α 𝔽 r) p
  rwa [← Aff2_mk_Lin2_eq] at h

/-! ## rotate(axis, angle) and the 2-D rotate(angle) are proper rotations -/

/-- `rotate(u, r)` normalises the axis first, so `u` need not be a unit vector, only non-zero (`dot3 u u` is the generated
    `dot(u, u)`). -/
theorem l3_rotate_proper (u : Vec3 α) (r : α) (hn : dot3 u u ≠ 0)
    (hs : E.sqrt (dot3 u u) * E.sqrt (dot3 u u) = dot3 u u)
    (hsc : E.sin r * E.sin r + E.cos r * E.cos r = 1) :
    @l3_mul α 𝔽 (@l3_rotate α 𝔽 u r) (@l3_transposed α 𝔽 (@l3_rotate α 𝔽 u r)) = I3 ∧
    @l3_det α 𝔽 (@l3_rotate α 𝔽 u r) = 1 := by
  rw [l3_rotate_eq_rotM]
  have := rotM_proper (E := E) (normalize_unit_of_sq hn hs) hsc
  exact ⟨this.1, this.2.1⟩

theorem l2_rotate_proper (r : α) (hsc : E.sin r * E.sin r + E.cos r * E.cos r = 1) :
    @l2_rotate α 𝔽 r = ⟨⟨E.cos r, E.sin r⟩, ⟨-E.sin r, E.cos r⟩⟩ ∧
    @l2_mul α 𝔽 (@l2_rotate α 𝔽 r) (@l2_transposed α 𝔽 (@l2_rotate α 𝔽 r)) = I2 ∧
    @l2_det α 𝔽 (@l2_rotate α 𝔽 r) = 1 := by
  have hR : @l2_rotate α 𝔽 r = ⟨⟨E.cos r, E.sin r⟩, ⟨-E.sin r, E.cos r⟩⟩ := by
    simp only [gen_simp, ofFieldT_sin, ofFieldT_cos]
  refine ⟨hR, ?_, ?_⟩
  · simp only [hR, l2_mul_cols, l2_apply_eq, l2_transposed_def, I2, Lin2.mk.injEq, Vec2.mk.injEq]
    exact ⟨⟨by linear_combination hsc, by ring⟩, by ring, by linear_combination hsc⟩
  · simp only [hR, l2_det_def]
    linear_combination hsc

/-! ## quaternions and matrices describe the same rotations -/

/-- the matrix built from a quaternion acts on every vector as q·v·conj(q), for every quaternion, unit or not -/
theorem quat_matrix_agree (q : Quat α) (v : Vec3 α) :
    @l3_apply α 𝔽 (@l3_from_quat α 𝔽 q) v = @q_rotate_vec α 𝔽 q v ∧
    @q_xfmPoint α 𝔽 q v = @q_rotate_vec α 𝔽 q v := by
  refine ⟨?_, rfl⟩
  simp only [l3_from_quat_eq, l3_apply_eq, q_rotate_vec_eq, q_mul_eq, q_conj_eq, q_v, Quat_v, Quat_mk_Vec3, ZeroTy_to_S,
    Vec3_mk_S_S_S, ofFieldT_ofNat, Nat.cast_zero, Vec3.mk.injEq]
  refine ⟨?_, ?_, ?_⟩ <;> ring

theorem q_mul_norm (a b : Quat α) :
    @q_dot α 𝔽 (@q_mul α 𝔽 a b) (@q_mul α 𝔽 a b) = @q_dot α 𝔽 a a * @q_dot α 𝔽 b b := by
  simp only [q_mul_eq, q_dot, dot_Quat_Quat]; ring
theorem q_mul_assoc (a b c : Quat α) :
    @q_mul α 𝔽 (@q_mul α 𝔽 a b) c = @q_mul α 𝔽 a (@q_mul α 𝔽 b c) := by
  simp only [q_mul_eq, Quat.mk.injEq]; refine ⟨?_, ?_, ?_, ?_⟩ <;> ring
theorem q_mul_rotate (a b : Quat α) (v : Vec3 α) :
    @q_rotate_vec α 𝔽 (@q_mul α 𝔽 a b) v = @q_rotate_vec α 𝔽 a (@q_rotate_vec α 𝔽 b v) := by
  rw [q_rotate_vec_eq, q_rotate_vec_eq, q_rotate_vec_eq, q_sandwich_pure, q_conj_mul]
  simp only [q_mul_assoc]
theorem q_rcp_mul (a : Quat α) (h : @q_dot α 𝔽 a a ≠ 0) : @q_mul α 𝔽 a (@q_rcp α 𝔽 a) = ⟨0, 0, 0, 1⟩ := by
  rw [q_rcp_eq, q_mul_muls, q_mul_conj]
  simp only [q_muls, mul_Quat_S, Quat_mk_S_S_S_S, zero_mul, mul_one_div_cancel h]

/-- yaw/pitch/roll: the constructor equals qY(yaw)·qX(pitch)·qZ(roll) of the three axis quaternions
    (half-angle sines and cosines as computed by the code). -/
theorem quat_ypr (yaw pitch roll : α) :
    @q_from_ypr α 𝔽 yaw pitch roll =
      @q_mul α 𝔽 (@q_mul α 𝔽 ⟨0, E.sin (yaw * (1/2)), 0, E.cos (yaw * (1/2))⟩
                              ⟨E.sin (pitch * (1/2)), 0, 0, E.cos (pitch * (1/2))⟩)
                 ⟨0, 0, E.sin (roll * (1/2)), E.cos (roll * (1/2))⟩ := by
  simp only [gen_simp, sci_half, ofFieldT_sin, ofFieldT_cos, Quat.mk.injEq, mul_zero, zero_mul, sub_zero, add_zero, zero_add,
    zero_sub]
  refine ⟨?_, ?_, ?_, ?_⟩ <;> ring

/-- Quaternion::rotate(u, r) = (cos(r/2), sin(r/2)·û) -/
theorem q_rotate_def (u : Vec3 α) (r : α) :
    @q_rotate α 𝔽 u r = ⟨E.sin ((1/2) * r) * (u.x * (1 / E.sqrt (dot3 u u))), E.sin ((1/2) * r) * (u.y * (1 / E.sqrt (dot3 u u))),
      E.sin ((1/2) * r) * (u.z * (1 / E.sqrt (dot3 u u))), E.cos ((1/2) * r)⟩ := by
  simp only [gen_simp, sci_half, sci_one, ofFieldT_sqrt, ofFieldT_sin, ofFieldT_cos, dot3]

/-! ## slerp: takes the short way; end points (both branches) -/

/-- slerp takes the short way: it interpolates from whichever of ±a is closer to b, so negating the first
    operand (the same rotation) does not change the result. -/
theorem q_slerp_neg_invariant (f : α) (a b : Quat α) (hd : @q_dot α 𝔽 a b ≠ 0) :
    @q_slerp α 𝔽 f (@q_neg α 𝔽 a) b = @q_slerp α 𝔽 f a b := by
  simp only [q_slerp_eq, q_dot_neg, abs_neg, q_neg_neg, neg_lt_zero]
  rcases lt_or_gt_of_ne hd with h | h <;> simp only [h, not_lt_of_gt h, ↓reduceIte]

theorem q_slerp_zero (a b : Quat α) (hs : E.sin 0 = 0) (hc : E.cos 0 = 1) :
    @q_slerp α 𝔽 0 a b =
      (let a' := if @q_dot α 𝔽 a b < 0 then @q_neg α 𝔽 a else a
       if (9995 / 10000 : α) < |@q_dot α 𝔽 a b| then @q_normalize α 𝔽 a' else a') := by
  simp only [q_slerp_eq, lerp_eq, mul_zero, hs, hc, zero_div, sub_zero, q_add_smul_one_zero]

theorem q_slerp_one (a b : Quat α)
    (hsin : E.sin (E.acos |@q_dot α 𝔽 a b|) ≠ 0) (hcos : E.cos (E.acos |@q_dot α 𝔽 a b|) = |@q_dot α 𝔽 a b|) :
    @q_slerp α 𝔽 1 a b =
      (if (9995 / 10000 : α) < |@q_dot α 𝔽 a b| then @q_normalize α 𝔽 b else b) := by
  simp only [q_slerp_eq, lerp_eq, mul_one, hcos, div_self hsin, sub_self, q_add_smul_zero_one]

/-! ## frame / lookat: the documented axes and origin, the fallback, orthonormality and orientation -/

theorem l3_frame_axes (N : Vec3 α) : (@l3_frame α 𝔽 N).vz = N ∧
    @dot_Vec3_Vec3 α 𝔽 (@l3_frame α 𝔽 N).vx N = 0 ∧ @dot_Vec3_Vec3 α 𝔽 (@l3_frame α 𝔽 N).vy N = 0 := by
  obtain ⟨e, he, -⟩ := l3_frame_eq (E := E) N
  rw [he]
  exact ⟨rfl, frameOn_axes (dot_cross_right e N)⟩

/-- frame(N, up) falls back to frame(N) whenever up and N are nearly parallel or anti-parallel. The code compares
    |up·N| with the float `0.99f` = 0.990000009…; the statement asks for |up·N| ≥ 0.991, a round bound above it. -/
theorem l3_frame_up_fallback (N up : Vec3 α) (h : (991 / 1000 : α) ≤ |dot3 up N|) :
    @l3_frame_up α 𝔽 N up = @l3_frame α 𝔽 N := by
  rw [l3_frame_up_eq, if_pos]
  exact lt_of_lt_of_le (by norm_num) h

/-- **frame(N) is a right-handed orthonormal frame with third axis N, for every unit N** — in particular
    the helper axis chosen (the longer of e_x×N, e_y×N) is never the zero vector, so nothing is normalised
    from zero (N = ±e_x, ±e_y included). -/
theorem l3_frame_orthonormal (h : SqrtLaw E) (N : Vec3 α) (hN : @dot_Vec3_Vec3 α 𝔽 N N = 1) :
    let F := @l3_frame α 𝔽 N
    @dot_Vec3_Vec3 α 𝔽 F.vx F.vx = 1 ∧ @dot_Vec3_Vec3 α 𝔽 F.vy F.vy = 1 ∧ @dot_Vec3_Vec3 α 𝔽 F.vy F.vx = 0 ∧
    @dot_Vec3_Vec3 α 𝔽 F.vx N = 0 ∧ @dot_Vec3_Vec3 α 𝔽 F.vy N = 0 ∧ F.vz = N ∧ @l3_det α 𝔽 F = 1 := by
  obtain ⟨e, he, hp⟩ := l3_frame_eq (E := E) N
  rw [he]
  exact frameOn_orthonormal h hN (hp hN) (dot_cross_right e N)

/-- **frame(N, up) is a right-handed orthonormal frame with third axis N, for all unit N and up** (parallel,
    anti-parallel and nearly parallel `up` included: those take the frame(N) fallback; otherwise up×N ≠ 0). -/
theorem l3_frame_up_orthonormal (h : SqrtLaw E) (N up : Vec3 α) (hN : @dot_Vec3_Vec3 α 𝔽 N N = 1)
    (hup : @dot_Vec3_Vec3 α 𝔽 up up = 1) :
    let F := @l3_frame_up α 𝔽 N up
    @dot_Vec3_Vec3 α 𝔽 F.vx F.vx = 1 ∧ @dot_Vec3_Vec3 α 𝔽 F.vy F.vy = 1 ∧ @dot_Vec3_Vec3 α 𝔽 F.vy F.vx = 0 ∧
    @dot_Vec3_Vec3 α 𝔽 F.vx N = 0 ∧ @dot_Vec3_Vec3 α 𝔽 F.vy N = 0 ∧ F.vz = N ∧ @l3_det α 𝔽 F = 1 := by
  rw [l3_frame_up_eq]
  split_ifs with hc
  · exact l3_frame_orthonormal E h N hN
  · refine frameOn_orthonormal h hN ?_ (dot_cross_right up N)
    have hlt : @dot_Vec3_Vec3 α 𝔽 up N ^ 2 < 1 :=
      (sq_lt_one_iff_abs_lt_one _).mpr (lt_of_le_of_lt (not_lt.mp hc) (by norm_num))
    rw [cross_dot_lagrange, hup, hN]
    linarith [sq (@dot_Vec3_Vec3 α 𝔽 up N)]

/-- **lookat is orthonormal** whenever point ≠ eye and up is not parallel to the viewing direction:
    Z, U = normalize(Z×up), V = U×Z are unit and mutually orthogonal, det = −1, origin = eye. -/
theorem a3_lookat_orthonormal (h : SqrtLaw E) (eye point up : Vec3 α)
    (hpe : 0 < @dot_Vec3_Vec3 α 𝔽 (@sub_Vec3_Vec3 α 𝔽 point eye) (@sub_Vec3_Vec3 α 𝔽 point eye))
    (hcr : 0 < @dot_Vec3_Vec3 α 𝔽
      (@cross_Vec3_Vec3 α 𝔽 (@normalize_Vec3 α 𝔽 (@sub_Vec3_Vec3 α 𝔽 point eye)) up)
      (@cross_Vec3_Vec3 α 𝔽 (@normalize_Vec3 α 𝔽 (@sub_Vec3_Vec3 α 𝔽 point eye)) up)) :
    let A := @a3_lookat α 𝔽 eye point up
    @dot_Vec3_Vec3 α 𝔽 A.l.vx A.l.vx = 1 ∧ @dot_Vec3_Vec3 α 𝔽 A.l.vy A.l.vy = 1 ∧ @dot_Vec3_Vec3 α 𝔽 A.l.vz A.l.vz = 1 ∧
    @dot_Vec3_Vec3 α 𝔽 A.l.vy A.l.vx = 0 ∧ @dot_Vec3_Vec3 α 𝔽 A.l.vy A.l.vz = 0 ∧ @dot_Vec3_Vec3 α 𝔽 A.l.vx A.l.vz = 0 ∧
    @l3_det α 𝔽 A.l = -1 ∧ A.p = eye := by
  intro A
  set Z := @normalize_Vec3 α 𝔽 (@sub_Vec3_Vec3 α 𝔽 point eye)
  set U := @normalize_Vec3 α 𝔽 (@cross_Vec3_Vec3 α 𝔽 Z up) with hUdef
  have hA : A = ⟨⟨U, @cross_Vec3_Vec3 α 𝔽 U Z, Z⟩, eye⟩ := a3_lookat_def eye point up
  have hZ : @dot_Vec3_Vec3 α 𝔽 Z Z = 1 := normalize_unit h hpe
  have hU : @dot_Vec3_Vec3 α 𝔽 U U = 1 := normalize_unit h hcr
  have hUZ : @dot_Vec3_Vec3 α 𝔽 U Z = 0 := by rw [hUdef, dot_normalize, dot_cross_left, zero_mul]
  have hV := cross_unit hU hZ hUZ
  rw [hA]
  exact ⟨hU, hV, hZ, dot_cross_left _ _, dot_cross_right _ _, hUZ, (det_mid_neg _ _ _).trans (congrArg Neg.neg hV), rfl⟩

/-! ## quaternion from rotation matrix: all four branches return ±q -/

/-- **quaternion ← matrix ← quaternion**: for every unit quaternion q, converting its rotation matrix back yields q or −q
    (the same rotation), whichever of the four branches is taken; in particular the pivot of the branch taken is
    never zero, so no branch divides by zero. -/
theorem q_from_matrix_of_quat (h : SqrtLaw E) (q : Quat α)
    (hu : q.r * q.r + q.i * q.i + q.j * q.j + q.k * q.k = 1) :
    let M := @l3_from_quat α 𝔽 q
    @q_from_matrix α 𝔽 M.vx M.vy M.vz = q ∨ @q_from_matrix α 𝔽 M.vx M.vy M.vz = @q_neg α 𝔽 q := by
  intro M
  obtain ⟨i, j, k, r⟩ := q
  have hM : M = _ := l3_from_quat_eq _
  simp only at hu hM
  -- 4·pivot² as each branch computes it. Where trace < 0 the branch takes the largest diagonal entry d, and
  -- 3·d ≥ trace = 4r² − 1 ≥ −1 gives 4·pivot² = 1 + 2·d − trace > 0; where trace ≥ 0, 4r² = 1 + trace ≥ 1.
  have tr : 1 + (M.vx.x + M.vy.y + M.vz.z) = 4 * r * r := by simp only [hM]; linear_combination (-1 : α) * hu
  have ti : 1 + M.vx.x - (M.vy.y + M.vz.z) = 4 * i * i := by simp only [hM]; linear_combination (-1 : α) * hu
  have tj : 1 + M.vy.y - (M.vz.z + M.vx.x) = 4 * j * j := by simp only [hM]; linear_combination (-1 : α) * hu
  have tk : 1 + M.vz.z - (M.vx.x + M.vy.y) = 4 * k * k := by simp only [hM]; linear_combination (-1 : α) * hu
  have nr := mul_self_nonneg r
  rw [q_from_matrix_eq]
  -- in each branch 4·pivot² is positive and the differences and sums of entries it takes are 4·pivot·(component of q)
  split_ifs with c1 c2 c3
  · exact pivot_quat h ⟨i, j, k, r⟩ tr (by linarith only [c1])
      (by simp only [hM]; ring) (by simp only [hM]; ring) (by simp only [hM]; ring) tr
  · exact pivot_quat h ⟨i, j, k, r⟩ ti
      (by linarith only [tr, nr, c1, le_trans (le_max_left _ _) c2, le_trans (le_max_right _ _) c2])
      ti (by simp only [hM]; ring) (by simp only [hM]; ring) (by simp only [hM]; ring)
  · exact pivot_quat h ⟨i, j, k, r⟩ tj (by rw [max_eq_left c3] at c2; linarith only [tr, nr, c1, c2, c3])
      (by simp only [hM]; ring) tj (by simp only [hM]; ring) (by simp only [hM]; ring)
  · exact pivot_quat h ⟨i, j, k, r⟩ tk (by rw [max_eq_right (le_of_not_ge c3)] at c2; linarith only [tr, nr, c1, c2, c3])
      (by simp only [hM]; ring) (by simp only [hM]; ring) tk (by simp only [hM]; ring)

/-! ## compound assignments: `x op= y` leaves `x op y` in `x` -/
theorem a3_compound_assign (a b : Aff3 α) :
    @a3_imul α 𝔽 a b = @a3_mul α 𝔽 a b ∧ @a3_idiv α 𝔽 a b = @a3_div α 𝔽 a b := by
  simp only [gen_simp, and_self]
theorem l_compound_assign (a b : Lin3 α) (c d : Lin2 α) :
    @l3_imul α 𝔽 a b = @l3_mul α 𝔽 a b ∧ @l3_idiv α 𝔽 a b = @l3_mul α 𝔽 a (@l3_rcp α 𝔽 b) ∧
    @l2_imul α 𝔽 c d = @l2_mul α 𝔽 c d ∧ @l2_idiv α 𝔽 c d = @l2_mul α 𝔽 c (@l2_rcp α 𝔽 d) := by
  simp only [gen_simp, and_self]
theorem q_compound_assign (a b : Quat α) (s : α) :
    @q_imul α 𝔽 a b = @q_mul α 𝔽 a b ∧ @q_idiv α 𝔽 a b = @q_mul α 𝔽 a (@q_rcp α 𝔽 b) ∧
    @q_iadd α 𝔽 a b = @q_add α 𝔽 a b ∧ @q_isub α 𝔽 a b = @q_sub α 𝔽 a b ∧
    @q_imuls α 𝔽 a s = @q_muls α 𝔽 a s ∧ @q_idivs α 𝔽 a s = @q_muls α 𝔽 a (1 / s) ∧
    @q_iadds α 𝔽 a s = ⟨a.i, a.j, a.k, a.r + s⟩ ∧ @q_isubs α 𝔽 a s = ⟨a.i, a.j, a.k, a.r - s⟩ := by
  simp only [gen_simp, ofFieldT_ofScientific, and_self, true_and, and_true]; norm_num

/-! ## non-vacuity: hypotheses of the theorems above that could be suspected of being unsatisfiable -/

/-- `dot3 u u ≠ 0` of `l3_rotate_proper` at the non-unit axis u = (2, 0, 0) -/
example : (2 : ℚ) * 2 + 0 * 0 + 0 * 0 ≠ 0 := by norm_num
example : SqrtLaw (⟨0, 0, 0, Real.sqrt, id, id, id⟩ : Transc ℝ) :=
  fun _ h => ⟨Real.sqrt_pos.mpr h, Real.mul_self_sqrt h.le⟩

end RkVerif.C06
