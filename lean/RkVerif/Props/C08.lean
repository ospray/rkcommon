/-
Property C08 — reference counting destroys each object exactly once, at the last release.
Every theorem declared in this module is an audited proof obligation of the check.

The transition system: any number of threads, handle cells and objects.  A transition is
either "idle thread `t` begins operation `op`" (its continuation becomes `compile op`) or
"thread `t` performs its next atomic step" (`micro`), enabled when the step respects the
usage discipline (`guard`).  `Reachable ns nt s`: `s` is reachable from `init ns nt` by any
sequence of such transitions, i.e. under every program and every interleaving.
-/
import RkVerif.Lemmas.C08

namespace RkVerif.C08

inductive Reachable (ns nt : Nat) : State → Prop
  | init : Reachable ns nt (init ns nt)
  | act {s : State} (a : Act) : Reachable ns nt s → enabled s a = true → Reachable ns nt (apply s a)

theorem ginv_init (ns nt : Nat) : GInv (init ns nt) := by
  have hthr : ∀ t, getThr (init ns nt) t = {} := fun t => by
    simp only [getThr, init, List.getElem?_replicate]; split <;> rfl
  have hr : ∀ o, refsTo (init ns nt) o = 0 := fun o => by
    have hc : hrefs (init ns nt) o = 0 := (sumBy_eq_zero_iff _ _).mpr (by simp [init, ccnt])
    have hr : rrefs (init ns nt) o = 0 := (sumBy_eq_zero_iff _ _).mpr (by simp [init, trefs, sumBy])
    rw [refsTo_eq, hc, hr]; simp [manualOf, init]
  refine ⟨fun o => ⟨?_, ?_, ?_⟩, fun t => ?_, ⟨?_, ?_⟩, ?_⟩
  · rw [hr]; simp [countOf, init]
  · simp [countOf, aliveOf, init]
  · simp [destroyedOf, init]
  · simp [hthr, ThrOK, contOK]
  · intro i j hi; simp [aliveOf, init] at hi
  · intro i hi; simp [aliveOf, init] at hi
  · simp [NoStale, init]

theorem act_good {s : State} {a : Act} (hG : GInv s) (he : enabled s a = true) :
    GInv (apply s a) ∧ Good s (apply s a) := by
  cases a with
  | start t op => exact start_good hG he
  | step t => exact micro_good hG he

theorem reachable_ginv {ns nt : Nat} {s : State} (h : Reachable ns nt s) : GInv s := by
  induction h with
  | init => exact ginv_init ns nt
  | act a _ he ih => exact (act_good ih he).1

/-- number of handles that point at `o` and own a count -/
abbrev handlesTo (s : State) (o : Nat) : Nat := hrefs s o
/-- number of counted references to `o` held in locals of operations that are in progress -/
abbrev inFlight (s : State) (o : Nat) : Nat := rrefs s o

/-- count_inv: in every reachable state the counter of every object equals the references held
    through raw pointers (creator's reference, explicit refInc) plus the number of handles pointing
    at it plus the increments of operations in progress whose handle store is pending.
    (For destroyed and not yet created objects all four numbers are 0.) -/
theorem count_inv {ns nt : Nat} {s : State} (h : Reachable ns nt s) (o : Nat) :
    countOf s o = ((manualOf s o + handlesTo s o + inFlight s o : Nat) : Int) := by
  have := ((reachable_ginv h).inv o).cnt
  rw [this, refsTo_eq]; simp only [handlesTo, inFlight]; omega

/-- count_inv at operation boundaries (no operation in progress on any thread):
    useCount() = creator's / explicit references + number of live handles pointing at the object. -/
theorem count_inv_idle {ns nt : Nat} {s : State} (h : Reachable ns nt s)
    (hidle : ∀ t, (getThr s t).cont = []) (o : Nat) :
    countOf s o = ((manualOf s o + handlesTo s o : Nat) : Int) := by
  have := count_inv h o
  have h0 := idle_no_regs (reachable_ginv h) hidle o
  simp only [inFlight, handlesTo] at this ⊢
  rw [this, h0]; simp

/-- never_stale: in every reachable state — in particular at the moment a pointee's destructor runs, in the middle of
    whatever operation released the last reference — every constructed handle variable is null or owns a count (on a
    live object: `no_dangling`); no handle still holds the pointer of an object it has already released. (This is what
    the harness' `watchall` observes from inside the destructors. The defect it guards against was repaired in /repo
    5a911b9: `operator=(T*)` released the old object before it stored the new pointer.) -/
theorem never_stale {ns nt : Nat} {s : State} (h : Reachable ns nt s) (x : Nat) (hx : H) (hc : cell s x = some hx) :
    hx.isStale = false := by
  cases hx with
  | stale v => exact absurd (List.mem_of_getElem? (cells_get_of_cell hc)) ((reachable_ginv h).noStale v)
  | _ => rfl

set_option linter.unusedVariables false in
/-- never_stale at operation boundaries: every constructed handle is null or owns a count on its
    target, so `handlesTo s o` in `count_inv_idle` is the number of handles whose pointer is `o`.
    (`hidle` is not needed: see `never_stale`.) -/
theorem idle_no_stale {ns nt : Nat} {s : State} (h : Reachable ns nt s)
    (hidle : ∀ t, (getThr s t).cont = []) (x : Nat) (hx : H) (hc : cell s x = some hx) :
    hx.isStale = false :=
  never_stale h x hx hc

/-- destroy_once (never twice): the pointee destructor runs at most once per object. -/
theorem destroyed_le_one {ns nt : Nat} {s : State} (h : Reachable ns nt s) (o : Nat) :
    destroyedOf s o ≤ 1 := by
  rw [((reachable_ginv h).inv o).destroyed]; split <;> omega

/-- destroy_once (exactly at the last release, in every transition of every execution): a transition
    runs the destructor of `o` exactly when it takes the counter of `o` from a positive value to 0,
    and then once. -/
theorem destroy_once {ns nt : Nat} {s : State} (h : Reachable ns nt s) (a : Act)
    (he : enabled s a = true) (o : Nat) :
    destroyedOf (apply s a) o =
      destroyedOf s o + (if 0 < countOf s o ∧ countOf (apply s a) o = 0 then 1 else 0) :=
  ((act_good (reachable_ginv h) he).2.2 o).destroyed

/-- destroy_once (not earlier, not later): a created object has been destroyed iff its counter
    is 0, and is alive iff its counter is positive. -/
theorem destroyed_iff_count_zero {ns nt : Nat} {s : State} (h : Reachable ns nt s) (o : Nat)
    (ho : o < s.objs.length) :
    (destroyedOf s o = 1 ↔ countOf s o = 0) ∧ (destroyedOf s o = 0 ↔ 0 < countOf s o) ∧
    (aliveOf s o = true ↔ 0 < countOf s o) := by
  obtain ⟨hc, ha, hd⟩ := (reachable_ginv h).inv o
  rw [hd, ha, decide_eq_true_eq]
  refine ⟨?_, ?_, Iff.rfl⟩ <;> split <;> omega

/-- never while any reference remains: an object to which a handle points (owning), for which an
    operation in progress holds an incremented reference, or on which a raw reference is held,
    is alive and its destructor has not run. -/
theorem not_destroyed_while_referenced {ns nt : Nat} {s : State} (h : Reachable ns nt s) (o : Nat)
    (href : 0 < manualOf s o + handlesTo s o + inFlight s o) :
    aliveOf s o = true ∧ destroyedOf s o = 0 :=
  (reachable_ginv h).inv.live (by rw [count_inv h o]; omega)

/-- no_touch_after_destroy: whenever a transition of any thread changes (i.e. performs a
    read-modify-write on) the counter of an existing object, that object is alive and its
    destructor has not run.  The only hypothesis is the usage discipline encoded in `enabled`
    (raw pointers are used on objects to which a counted reference exists; handles are used
    between construction and destruction). -/
theorem no_touch_after_destroy {ns nt : Nat} {s : State} (h : Reachable ns nt s) (a : Act)
    (he : enabled s a = true) (o : Nat) (ho : o < s.objs.length)
    (hch : countOf (apply s a) o ≠ countOf s o) :
    aliveOf s o = true ∧ destroyedOf s o = 0 :=
  have hG := reachable_ginv h
  hG.inv.live (((act_good hG he).2.2 o).touch_alive hch ho)

/-- consequently the counter of a destroyed object stays 0 forever -/
theorem destroyed_counter_frozen {ns nt : Nat} {s : State} (h : Reachable ns nt s) (a : Act)
    (he : enabled s a = true) (o : Nat) (hd : destroyedOf s o = 1) :
    countOf (apply s a) o = 0 ∧ destroyedOf (apply s a) o = 1 := by
  have hl : o < s.objs.length := Nat.lt_of_not_le fun h' => by rw [destroyedOf_ge h'] at hd; omega
  have hz := (destroyed_iff_count_zero h o hl).1.mp hd
  have hta := ((act_good (reachable_ginv h) he).2.2 o).touch_alive
  have hz' : countOf (apply s a) o = 0 := by omega
  exact ⟨hz', by rw [destroy_once h a he o, hd, hz]; simp⟩

/-- no handle that owns a count dangles: its target is alive -/
theorem no_dangling {ns nt : Nat} {s : State} (h : Reachable ns nt s) (x v : Nat)
    (hc : cell s x = some (.own v)) : aliveOf s v = true ∧ destroyedOf s v = 0 :=
  have hI := (reachable_ginv h).inv
  hI.live (hI.countOf_pos (refsTo_pos_of_cell hc))

/-- eq_iff_same_object: `a == b` (comparison of the stored addresses) holds exactly when both
    handles are null or both point at the same object — although the allocator may hand the
    address of a destroyed object to a new one. -/
theorem eq_iff_same_object {ns nt : Nat} {s : State} (h : Reachable ns nt s) (x y : Nat) (hx hy : H)
    (hcx : cell s x = some hx) (hcy : cell s y = some hy)
    (hsx : hx.isStale = false) (hsy : hy.isStale = false) :
    eqH s x y = true ↔ hx.ptr = hy.ptr := by
  have hG := reachable_ginv h
  simp only [eqH, hcx, hcy, beq_iff_eq]
  exact hG.addr.addrOf_inj
    (fun v hv => (hG.inv.live (hG.inv.countOf_pos (refsTo_pos_of_ptr hcx hsx hv))).1)
    (fun v hv => (hG.inv.live (hG.inv.countOf_pos (refsTo_pos_of_ptr hcy hsy hv))).1)

/-- self_assign_safe: the two atomic steps of `x = x` (copy assignment), increment first: nothing is
    destroyed after either, and after the second all counters, liveness flags, destructor counts,
    handles and the locals of the thread are what they were before. -/
theorem self_assign_safe {ns nt : Nat} {s : State} (h : Reachable ns nt s) (t x : Nat) (hx : H)
    (ht : t < s.thr.length) (hcx : cell s x = some hx) (hsx : hx.isStale = false) :
    compile (.copy x x) = [.incFrom x, .swapDec x] ∧
    let s1 := exec s t (.incFrom x)
    let s2 := exec s1 t (.swapDec x)
    guard s t (.incFrom x) = true ∧ guard s1 t (.swapDec x) = true ∧
    (∀ o, aliveOf s1 o = aliveOf s o ∧ destroyedOf s1 o = destroyedOf s o) ∧
    (∀ o, countOf s2 o = countOf s o ∧ aliveOf s2 o = aliveOf s o ∧ destroyedOf s2 o = destroyedOf s o) ∧
    (∀ y, cell s2 y = cell s y) ∧ (getThr s2 t).regs = (getThr s t).regs := by
  refine ⟨rfl, ?_⟩
  intro s1 s2
  have hI := (reachable_ginv h).inv
  have hg : ∀ S : State, S.cells = s.cells → usable S x = true := fun S hS => by
    simp [usable, cell, hS, cells_get_of_cell hcx, hsx]
  -- storing into `x` what it holds restores the handles
  have hcell : ∀ S : State, S.cells = s.cells → ∀ y, cell (setCell S x (some hx)) y = cell s y :=
    fun S hS y => by
      rw [cell_setCell]; split
      · rename_i h; rw [← h.1, hcx]
      · simp [cell, hS]
  cases hx with
  | stale v => simp [H.isStale] at hsx
  | null =>
    have e1 : s1 = pushReg s t none := by simp [s1, exec, hcx, H.ptr, incOpt]
    have e2 : s2 = setCell (popReg s1 t) x (some .null) := by
      simp [s2, e1, exec, hcx, topReg, getThr_pushReg, ht, H.ofPtr, releaseH]
    refine ⟨hg s rfl, hg s1 (e1 ▸ rfl), fun o => e1 ▸ ⟨rfl, rfl⟩, fun o => e2 ▸ e1 ▸ ⟨rfl, rfl, rfl⟩,
      e2 ▸ hcell _ (e1 ▸ rfl), ?_⟩
    simp [e2, e1, getThr_popReg, getThr_pushReg, ht]
  | own v =>
    have hv := refsTo_pos_of_cell hcx
    have hcv := hI.countOf_pos hv
    have e1 : s1 = incCount (pushReg s t (some v)) v := by simp [s1, exec, hcx, H.ptr, incOpt]
    have hc1 : s1.cells = s.cells := by simp [e1]
    have e2 : s2 = release (setCell (popReg s1 t) x (some (.own v))) t v := by
      have : cell (incCount (pushReg s t (some v)) v) x = some (.own v) := by simpa [cell] using hcx
      simp [s2, exec, e1, this, topReg, getThr_pushReg, ht, H.ofPtr, releaseH]
    have ho := SameObs.of_objs (e2 ▸ release_incCount_objs t v hcv (by simp [e1, incCount_eq, modObj]))
    refine ⟨hg s rfl, hg s1 hc1, fun o => by simp [e1], fun o => ⟨ho.c o, ho.a o, ho.d o⟩, fun y => ?_, ?_⟩
    · rw [e2]; simpa [cell] using hcell (popReg s1 t) hc1 y
    · simp [e2, e1, regs_release, getThr_popReg, getThr_pushReg, ht]

/-- self-move `x = std::move(x)` (one atomic step): no counter, liveness flag, destructor count
    or handle changes. -/
theorem self_move_safe (s : State) (t x : Nat) (hx : H) (hcx : cell s x = some hx) :
    compile (.move x x) = [.moveDec x x] ∧
    (exec s t (.moveDec x x)).objs = s.objs ∧ (∀ y, cell (exec s t (.moveDec x x)) y = cell s y) :=
  ⟨rfl, by rw [self_move_eq t hcx], fun y => by rw [self_move_eq t hcx]⟩

theorem drain_reachable {ns nt : Nat} (t fuel : Nat) {s s' : State} (h : Reachable ns nt s)
    (hd : drain s t fuel = some s') : Reachable ns nt s' ∧ nextStep s' t = none := by
  induction fuel generalizing s with
  | zero => simp [drain] at hd
  | succ n ih =>
    simp only [drain] at hd
    cases hns : nextStep s t with
    | none => simp [hns] at hd; subst hd; exact ⟨h, hns⟩
    | some ms =>
      simp only [hns] at hd
      by_cases hg : guard s t ms = true
      · simp only [hg, if_true] at hd
        have he : enabled s (.step t) = true := by simp [enabled, hns, hg]
        exact ih (Reachable.act (.step t) h he) hd
      · simp [hg] at hd

/-- every state the driver prints after an operation line is reachable (so all theorems above
    apply to it), and the executing thread is idle again -/
theorem runOp_reachable {ns nt : Nat} (t : Nat) (op : Op) (fuel : Nat) {s s' : State}
    (h : Reachable ns nt s) (hr : runOp s t op fuel = some s') :
    Reachable ns nt s' ∧ nextStep s' t = none := by
  unfold runOp at hr
  by_cases he : enabled s (.start t op) = true
  · simp only [he, if_true] at hr
    exact drain_reachable t fuel (Reachable.act (.start t op) h he) hr
  · simp [he] at hr

/-! ## Non-vacuity: concrete executions -/

def runOps (s : State) : List Op → Option State
  | [] => some s
  | op :: rest => (runOp s 0 op).bind (fun s' => runOps s' rest)

theorem runOps_reachable {ns nt : Nat} (ops : List Op) {s s' : State} (h : Reachable ns nt s)
    (hr : runOps s ops = some s') : Reachable ns nt s' := by
  induction ops generalizing s with
  | nil => simp [runOps] at hr; subst hr; exact h
  | cons op rest ih =>
    obtain ⟨s1, h1, hr⟩ := Option.bind_eq_some_iff.mp hr
    exact ih (runOp_reachable 0 op _ h h1).1 hr

/-- list pop `head = head->next` (x0 = member of the object x0 points at): the old head is
    destroyed exactly once, the next object survives with count 1 -/
def demoPop : List Op :=
  [.new 1, .new 2, .ctorRaw 0 (some 0), .refDec 0, .raw 2 (some 1), .refDec 1, .copy 0 2]

example : (runOps (init 2 1) demoPop).map
    (fun s => (countOf s 0, destroyedOf s 0, aliveOf s 0, countOf s 1, destroyedOf s 1, aliveOf s 1, cell s 0)) =
    some (0, 1, false, 1, 0, true, some (.own 1)) := by rfl

/-- the hypotheses of the theorems are satisfiable in a state where a destruction has happened -/
example : ∃ s, Reachable 2 1 s ∧ destroyedOf s 0 = 1 ∧ countOf s 1 = 1 := by
  have h1 : (runOps (init 2 1) demoPop).map (fun s => (destroyedOf s 0, countOf s 1)) = some (1, 1) := by rfl
  obtain ⟨s, h, e⟩ := Option.map_eq_some_iff.mp h1
  exact ⟨s, runOps_reachable demoPop Reachable.init h, (Prod.mk.inj e).1, (Prod.mk.inj e).2⟩

/-- two threads, steps interleaved: thread 1 copies handle 0 into handle 1 while thread 0
    drops the creator's reference; all transitions are enabled -/
def demoActs : List Act :=
  [.start 0 (.new 1), .step 0, .start 0 (.ctorRaw 0 (some 0)), .step 0, .start 1 (.ctorDef 1), .step 1,
   .start 1 (.copy 1 0), .start 0 (.refDec 0), .step 1, .step 0, .step 1,
   .start 0 (.dtor 0), .start 1 (.dtor 1), .step 1, .step 0, .step 0]

def runActs (s : State) : List Act → Option State
  | [] => some s
  | a :: rest => if enabled s a then runActs (apply s a) rest else none

example : (runActs (init 2 2) demoActs).map (fun s => (countOf s 0, destroyedOf s 0, cell s 0, cell s 1)) =
    some (0, 1, none, none) := by rfl

/-- the discipline is needed: refDec() through a raw pointer without holding a raw reference is
    rejected by `enabled` (it would destroy an object that a handle still references) -/
example : (runOps (init 2 1) [.new 1, .ctorRaw 0 (some 0), .refDec 0, .refDec 0]) = none := by decide

end RkVerif.C08
