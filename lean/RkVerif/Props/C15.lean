/-
Property C15 — stream serialization round-trips and never leaves its buffer.
Every theorem declared in this module is an audited proof obligation of the check.

`Res.fault` is a memory access outside the stream's buffer, so "never leaves its buffer" reads "never `fault`".
`Reader.Inv` / `FixedW.Inv` (buffer size is a size_t and the cursor is inside the buffer) is an invariant of
every history (theorems `reader_history_safe`, `fixedwriter_accounting`), not an assumption about the caller.
-/
import RkVerif.Lemmas.C15

namespace RkVerif.C15

/-- For every well-typed value of every type (nested vectors included) decoding
    the encoding returns the value and exactly the bytes that followed it. -/
theorem decode_encode (t : Ty) (v : Val) (rest : List UInt8) (h : WT t v) :
    decode t (encode v ++ rest) = .ok (v, rest) :=
  (decode_parses t v h).ok rest

theorem decodeAll_encodeL (ts : List Ty) (vs : List Val) (rest : List UInt8) (h : WTL ts vs) :
    decodeAll ts (encodeL vs ++ rest) = .ok (vs, rest) :=
  (decodeAll_parses ts vs h).ok rest

/-- Format level: every proper prefix of an encoding makes decoding throw. -/
theorem decode_truncated (t : Ty) (v : Val) (m : Nat) (h : WT t v) (hm : m < (encode v).length) :
    decode t ((encode v).take m) = .throw :=
  (decode_parses t v h).short m hm

theorem decodeAll_truncated (ts : List Ty) (vs : List Val) (m : Nat) (h : WTL ts vs)
    (hm : m < (encodeL vs).length) : decodeAll ts ((encodeL vs).take m) = .throw :=
  (decodeAll_parses ts vs h).short m hm

/-- The length prefix survives: 8 little-endian bytes hold every size_t. -/
theorem length_prefix_roundtrip (n : Nat) (h : n < W) : (le64 n).length = 8 ∧ leVal (le64 n) = n :=
  ⟨le64_length n, leVal_le64 n h⟩

/-- guards_sound (BufferReader::read): when the guard lets a read through, `cursor + size` —
    as natural numbers, for *any* `size`, however close to 2^64 — is inside the buffer. -/
theorem guards_sound_read (r : Reader) (h : r.Inv) (size : Nat) (hp : r.rejects size = false) :
    r.cursor + size ≤ r.buf.length :=
  (accepts_iff (Reader.rejects_iff r h size)).mp hp

/-- guards_sound (BufferReader::getView<T>, `k = sizeof(T) ≥ 1`): neither the product nor the sum wraps. -/
theorem guards_sound_view (r : Reader) (h : r.Inv) (count k : Nat) (hk : 0 < k)
    (hp : r.rejectsView count k = false) : r.cursor + count * k ≤ r.buf.length :=
  (accepts_iff (Reader.rejectsView_iff r h count k hk)).mp hp

/-- guards_sound (FixedBufferWriter::write / reserve). -/
theorem guards_sound_write (w : FixedW) (h : w.Inv) (size : Nat) (hp : w.rejects size = false) :
    w.cursor + size ≤ w.mem.length :=
  (accepts_iff (FixedW.rejects_iff w h size)).mp hp

/-- The guards reject nothing that fits (reader, view, writer). -/
theorem guards_complete (r : Reader) (hr : r.Inv) (w : FixedW) (hw : w.Inv) (size count k : Nat) (hk : 0 < k) :
    (r.cursor + size ≤ r.buf.length → r.rejects size = false) ∧
    (r.cursor + count * k ≤ r.buf.length → r.rejectsView count k = false) ∧
    (w.cursor + size ≤ w.mem.length → w.rejects size = false) :=
  ⟨(accepts_iff (Reader.rejects_iff r hr size)).mpr, (accepts_iff (Reader.rejectsView_iff r hr count k hk)).mpr,
    (accepts_iff (FixedW.rejects_iff w hw size)).mpr⟩

/-- The guard of the unrepaired BufferReader (`cursor + size > size()`) is *not* sound: cursor 1 in an
    8-byte buffer, size 2^64-1: the sum wraps to 0 and the read is let through. -/
theorem old_reader_guard_unsound :
    ∃ cursor size n, cursor ≤ n ∧ n < W ∧ size < W ∧
      oldReaderRejects cursor size n = false ∧ ¬ (cursor + size ≤ n) :=
  ⟨1, W - 1, 8, by decide⟩

/-- The guard of the unrepaired FixedBufferWriter (`cursor + size >= size()`) rejects an exact fit
    (4 bytes into an empty 4-byte writer) and is let through by wrap-around as well. -/
theorem old_writer_guard_wrong :
    oldWriterRejects 0 4 4 = true ∧
    (∃ cursor size n, cursor ≤ n ∧ n < W ∧ size < W ∧
      oldWriterRejects cursor size n = false ∧ ¬ (cursor + size ≤ n)) :=
  ⟨by decide, ⟨2, W - 1, 8, by decide⟩⟩

inductive ROp where
  | read (size : Nat)
  | view (count k : Nat)

def Reader.apply (r : Reader) : ROp → Res (List UInt8 × Reader)
  | .read s => r.read s
  | .view c k => r.getView c k

/-- an exception leaves the reader as it is -/
def Reader.step (r : Reader) (op : ROp) : Reader :=
  match r.apply op with
  | .ok (_, r') => r'
  | _ => r

def Reader.runR (buf : List UInt8) : List ROp → Reader
  | [] => ⟨buf, 0⟩
  | op :: earlier => (Reader.runR buf earlier).step op

def ROp.ok : ROp → Prop
  | .read _ => True
  | .view _ k => 0 < k

theorem reader_step_safe (r : Reader) (h : r.Inv) (op : ROp) (hop : op.ok) :
    r.apply op ≠ .fault ∧ (r.step op).Inv ∧ (r.step op).buf = r.buf := by
  obtain ⟨size, hsz⟩ : ∃ size, r.apply op = r.read size := by
    cases op with
    | read s => exact ⟨s, rfl⟩
    | view c k => exact ⟨c * k, Reader.getView_eq_read r c k hop⟩
  simp only [Reader.step, hsz, Reader.read_spec r h]
  split
  next hfit => exact ⟨nofun, ⟨h.1, hfit⟩, rfl⟩
  next => exact ⟨nofun, h, rfl⟩

/-- After *every* history of raw reads and views (any sizes, failing ones included) the next operation —
    whatever it is — does not touch memory outside the buffer. Typed reads are compositions of
    these raw operations. -/
theorem reader_history_safe (buf : List UInt8) (hb : buf.length < W) (hist : List ROp)
    (hok : ∀ op ∈ hist, op.ok) :
    (Reader.runR buf hist).Inv ∧ (Reader.runR buf hist).buf = buf ∧
    ∀ op, op.ok → (Reader.runR buf hist).apply op ≠ .fault := by
  have inv : (Reader.runR buf hist).Inv ∧ (Reader.runR buf hist).buf = buf := by
    induction hist with
    | nil => exact ⟨⟨hb, Nat.zero_le _⟩, rfl⟩
    | cons op earlier ih =>
      obtain ⟨hi, hbuf⟩ := ih fun o ho => hok o (List.mem_cons_of_mem _ ho)
      have hs := reader_step_safe _ hi op (hok op (List.mem_cons_self ..))
      exact ⟨hs.2.1, hs.2.2.trans hbuf⟩
  exact ⟨inv.1, inv.2, fun op hop => (reader_step_safe _ inv.1 op hop).1⟩

/-- `BufferReader::read` returns exactly the next `size` bytes and advances by `size`, or throws; it succeeds
    exactly when the bytes are there. -/
theorem reader_read_exact (r : Reader) (h : r.Inv) (size : Nat) :
    (r.cursor + size ≤ r.buf.length →
      r.read size = .ok ((r.buf.drop r.cursor).take size, ⟨r.buf, r.cursor + size⟩)) ∧
    (¬ r.cursor + size ≤ r.buf.length → r.read size = .throw) := by
  rw [Reader.read_spec r h size]
  exact ⟨fun hh => if_pos hh, fun hh => if_neg hh⟩

/-- Typed reads on *arbitrary* buffer contents (truncated, corrupt, anything) never fault and agree with the
    cursor-free decoder. -/
theorem reader_typed_safe (ts : List Ty) (r : Reader) (h : r.Inv) :
    readAll ts r ≠ .fault ∧
    (∀ vs r', readAll ts r = .ok (vs, r') →
      r'.Inv ∧ r'.buf = r.buf ∧ decodeAll ts (r.buf.drop r.cursor) = .ok (vs, r.buf.drop r'.cursor)) ∧
    (readAll ts r = .throw ↔ decodeAll ts (r.buf.drop r.cursor) = .throw) := by
  have hs := readAll_sim ts (B := r.buf) (r := r) ⟨h, rfl, rfl⟩
  generalize readAll ts r = x at hs ⊢
  generalize decodeAll ts (r.buf.drop r.cursor) = y at hs ⊢
  cases hs with
  | throw => exact ⟨nofun, nofun, iff_of_true rfl rfl⟩
  | ok hsim =>
    obtain ⟨hi, hb, hd⟩ := hsim
    refine ⟨nofun, fun vs r' he => ?_, iff_of_false nofun nofun⟩
    cases he
    exact ⟨hi, hb, by rw [← hd, hb]⟩

/-- A BufferReader positioned at the start of the encoding of any well-typed value
    sequence (anything before, anything after) reads back exactly those values and ends up exactly
    behind them. -/
theorem reader_roundtrip (ts : List Ty) (vs : List Val) (h : WTL ts vs) (pre rest : List UInt8)
    (hlen : (pre ++ encodeL vs ++ rest).length < W) :
    readAll ts ⟨pre ++ encodeL vs ++ rest, pre.length⟩ =
      .ok (vs, ⟨pre ++ encodeL vs ++ rest, pre.length + (encodeL vs).length⟩) := by
  have hsim : SimB (pre ++ encodeL vs ++ rest) ⟨pre ++ encodeL vs ++ rest, pre.length⟩ (encodeL vs ++ rest) :=
    ⟨⟨hlen, by simp⟩, rfl, by simp [List.append_assoc]⟩
  have hs := readAll_sim ts hsim
  rw [(decodeAll_parses ts vs h).ok rest] at hs
  generalize readAll ts _ = x at hs ⊢
  cases hs with
  | ok hr =>
    rw [hr.reader_eq]
    simp only [List.length_append, Nat.add_sub_cancel]

theorem atEnd_iff (r : Reader) (h : r.Inv) : r.atEnd = true ↔ r.buf.drop r.cursor = [] := by
  obtain ⟨_, h2⟩ := h
  simp only [Reader.atEnd, Reader.size, ge_iff_le, decide_eq_true_eq, List.drop_eq_nil_iff]

theorem reader_reads_front (ts : List Ty) (vs : List Val) (h : WTL ts vs) (j : Nat) {rest B : List UInt8}
    (hB : encodeL (vs.take j) ++ rest = B) (hlen : B.length < W) :
    readAll (ts.take j) ⟨B, 0⟩ = .ok (vs.take j, ⟨B, (encodeL (vs.take j)).length⟩) := by
  subst hB
  simpa using reader_roundtrip (ts.take j) (vs.take j) (WTL_take ts vs h j) [] rest (by simpa using hlen)

/-- Write any well-typed sequence through a BufferWriter, open a BufferReader on
    the result (`encodeL vs`, by `size_calc_predicts`), read the first `j` values back: they are the first `j`
    values written, and `end()` is true exactly when no written byte is left. -/
theorem end_iff_consumed (ts : List Ty) (vs : List Val) (h : WTL ts vs) (hlen : (encodeL vs).length < W)
    (j : Nat) :
    ∃ r', readAll (ts.take j) ⟨encodeL vs, 0⟩ = .ok (vs.take j, r') ∧
      r'.cursor = (encodeL (vs.take j)).length ∧
      (r'.atEnd = true ↔ (encodeL (vs.drop j)).length = 0) := by
  have hsplit : encodeL (vs.take j) ++ encodeL (vs.drop j) = encodeL vs := by
    rw [← encodeL_append, List.take_append_drop]
  refine ⟨_, reader_reads_front ts vs h j hsplit hlen, rfl, ?_⟩
  rw [atEnd_iff _ ⟨hlen, by simp [← hsplit]⟩, List.length_eq_zero_iff, ← hsplit, List.drop_left]

/-- decode_truncated at the reader: open a BufferReader on *any proper prefix* of the written bytes
    (anything may precede it in the buffer) and read the written types back: an exception, never a
    fault — no index ≥ the prefix length is read. -/
theorem reader_truncated (ts : List Ty) (vs : List Val) (h : WTL ts vs) (m : Nat)
    (hm : m < (encodeL vs).length) (pre : List UInt8) (hlen : (pre ++ (encodeL vs).take m).length < W) :
    readAll ts ⟨pre ++ (encodeL vs).take m, pre.length⟩ = .throw := by
  have hi : (Reader.mk (pre ++ (encodeL vs).take m) pre.length).Inv := ⟨hlen, by simp⟩
  have := (reader_typed_safe ts _ hi).2.2
  simp only [List.drop_left] at this
  exact this.mpr ((decodeAll_parses ts vs h).short m hm)

/-- … while every value that lies completely before the cut is still read back correctly. -/
theorem reader_truncated_prefix_ok (ts : List Ty) (vs : List Val) (h : WTL ts vs) (m j : Nat)
    (hj : (encodeL (vs.take j)).length ≤ m) (hlen : (encodeL vs).length < W) :
    ∃ r', readAll (ts.take j) ⟨(encodeL vs).take m, 0⟩ = .ok (vs.take j, r') ∧
      r'.cursor = (encodeL (vs.take j)).length := by
  have hsplit : encodeL (vs.take j) ++ (encodeL (vs.drop j)).take (m - (encodeL (vs.take j)).length) =
      (encodeL vs).take m := by
    conv => rhs; rw [← List.take_append_drop j vs, encodeL_append, List.take_append]
    rw [List.take_of_length_le hj]
  exact ⟨_, reader_reads_front ts vs h j hsplit (by rw [List.length_take]; omega), rfl⟩

/-- Whatever was written before, BufferWriter appends exactly `encodeL vs` (earlier
    bytes untouched, no fault while growing) and WriteSizeCalculator counts exactly that many bytes. -/
theorem size_calc_exact (vs : List Val) (w : BufW) (c : SizeCalc) (hc : c.written < W) :
    w.writeChunks (chunksL vs) = .ok ⟨w.buf ++ encodeL vs⟩ ∧
    (c.writeChunks (chunksL vs)).written = (c.written + (encodeL vs).length) % W :=
  ⟨BufW.writeChunks_eq w _, SizeCalc.writeChunks_written c hc _⟩

/-- … in particular, from fresh streams and below 2^64 bytes, the prediction is the buffer size. -/
theorem size_calc_predicts (vs : List Val) (hlen : (encodeL vs).length < W) :
    ∃ w, (BufW.mk []).writeChunks (chunksL vs) = .ok w ∧ w.buf = encodeL vs ∧
      ((SizeCalc.mk 0).writeChunks (chunksL vs)).written = w.buf.length := by
  refine ⟨⟨encodeL vs⟩, BufW.writeChunks_eq _ _, rfl, ?_⟩
  rw [SizeCalc.writeChunks_written ⟨0⟩ (by decide), Nat.zero_add]
  exact Nat.mod_eq_of_lt hlen

/-! ### a reader on an array that changes between its calls

`BufferReader` holds a `shared_ptr` to the array and asks it for `size()` and `begin()` at every call; the array may be
the live buffer of a `BufferWriter` that keeps writing, or may have been emptied (its bytes moved out). -/

/-- A read that succeeds on the array as it is returns the same bytes and the same cursor
    after any bytes were appended to the array, and once enough bytes have been appended every read succeeds. -/
theorem reader_sees_appended (buf ext : List UInt8) (c size : Nat) (hlen : (buf ++ ext).length < W) (hc : c ≤ buf.length) :
    (c + size ≤ buf.length →
      (Reader.mk (buf ++ ext) c).read size = (match (Reader.mk buf c).read size with
        | .ok (bs, r') => .ok (bs, ⟨buf ++ ext, r'.cursor⟩)
        | o => o)) ∧
    (c + size ≤ (buf ++ ext).length →
      (Reader.mk (buf ++ ext) c).read size = .ok (((buf ++ ext).drop c).take size, ⟨buf ++ ext, c + size⟩)) := by
  have hl : buf.length ≤ (buf ++ ext).length := by simp
  have hi1 : (Reader.mk buf c).Inv := ⟨Nat.lt_of_le_of_lt hl hlen, hc⟩
  have hi2 : (Reader.mk (buf ++ ext) c).Inv := ⟨hlen, Nat.le_trans hc hl⟩
  rw [Reader.read_spec _ hi1 size, Reader.read_spec _ hi2 size]
  refine ⟨fun h => ?_, fun h => if_pos h⟩
  rw [if_pos h, if_pos (Nat.le_trans h hl)]
  simp only [List.drop_append_of_le_length hc,
    List.take_append_of_le_length (show size ≤ (buf.drop c).length by rw [List.length_drop]; omega)]

/-- When the array has become shorter than the reader's cursor (its bytes were moved out, it
    was reset), every read and every view throws — nothing is read — and `end()` is true. -/
theorem stale_cursor_throws (buf : List UInt8) (c : Nat) (hc : buf.length < c) (size count k : Nat) :
    (Reader.mk buf c).read size = .throw ∧ (Reader.mk buf c).getView count k = .throw ∧ (Reader.mk buf c).atEnd = true := by
  have h1 : (Reader.mk buf c).rejects size = true := by
    simp only [Reader.rejects, Reader.size, Bool.or_eq_true, decide_eq_true_eq]; exact Or.inl hc
  have h2 : (Reader.mk buf c).rejectsView count k = true := by
    simp only [Reader.rejectsView, Reader.size, Bool.or_eq_true, decide_eq_true_eq]; exact Or.inl hc
  refine ⟨by simp [Reader.read, h1], by simp [Reader.getView, h2], ?_⟩
  simp only [Reader.atEnd, Reader.size, ge_iff_le, decide_eq_true_eq]; omega

-- non-vacuity: the reader of the generator's `live_case` (props/c15.py): one byte written, read; three more appended, read
example : (Reader.mk [1] 0).read 1 = .ok ([1], ⟨[1], 1⟩) ∧ (Reader.mk [1, 2, 3, 4] 1).read 3 = .ok ([2, 3, 4], ⟨[1, 2, 3, 4], 4⟩) ∧
    (Reader.mk [] 4).read 0 = .throw := ⟨by rfl, by rfl, by rfl⟩

/-- `write` and `reserve` (any size, including exact fit, one over,
    and sizes near 2^64) are accepted exactly when `size ≤ available()`; everything else throws
    (never a fault). -/
theorem fixedwriter_accepts_iff_fits (w : FixedW) (h : w.Inv) (size : Nat) (src : Nat → UInt8) :
    (size ≤ w.available → (∃ w', w.write size src = .ok w') ∧ (∃ x, w.reserve size = .ok x)) ∧
    (¬ size ≤ w.available → w.write size src = .throw ∧ w.reserve size = .throw) := by
  rw [FixedW.le_available_iff w h, FixedW.write_spec w h, FixedW.reserve]
  constructor <;> intro hfit
  · rw [if_pos hfit, (accepts_iff (FixedW.rejects_iff w h size)).mpr hfit]
    exact ⟨⟨_, rfl⟩, ⟨_, rfl⟩⟩
  · rw [if_neg hfit, (FixedW.rejects_iff w h size).mpr hfit]
    exact ⟨rfl, rfl⟩

/-- Reference semantics of a history on natural numbers without any wrap-around: the bytes
    written so far; an operation is accepted iff it fits behind them. -/
def specRun (cap : Nat) : List FOp → List UInt8
  | [] => []
  | op :: earlier =>
    let done := specRun cap earlier
    if done.length + op.size ≤ cap then done ++ srcBytes op.size op.src else done

theorem FixedW.runR_eq (init : List UInt8) (hcap : init.length < W) (hist : List FOp) :
    (specRun init.length hist).length ≤ init.length ∧
    FixedW.runR init hist = (FixedW.new init).put (specRun init.length hist) := by
  induction hist with
  | nil => exact ⟨Nat.zero_le _, (FixedW.put_nil _).symm⟩
  | cons op earlier ih =>
    obtain ⟨hle, heq⟩ := ih
    obtain ⟨hi, hml, hc⟩ := FixedW.new_put_inv hcap hle
    simp only [FixedW.runR, FixedW.step, heq, FixedW.apply_spec _ hi, hml, hc, specRun]
    by_cases hfit : (specRun init.length earlier).length + op.size ≤ init.length
    · simp only [if_pos hfit, List.length_append, srcBytes_length]
      exact ⟨hfit, FixedW.put_put _ (FixedW.new_fits hle)⟩
    · simp only [if_neg hfit]
      exact ⟨hle, trivial⟩

/-- After *every* history of writes and reservations (any sizes) on a writer
    of any capacity, the writer is: cursor = number of bytes of the accepted operations, buffer =
    those bytes followed by the untouched remainder of the initial buffer. -/
theorem fixedwriter_refines (init : List UInt8) (hcap : init.length < W) (hist : List FOp) :
    (specRun init.length hist).length ≤ init.length ∧
    (FixedW.runR init hist).cursor = (specRun init.length hist).length ∧
    (FixedW.runR init hist).mem = specRun init.length hist ++ init.drop (specRun init.length hist).length := by
  obtain ⟨hle, heq⟩ := FixedW.runR_eq init hcap hist
  rw [heq]
  exact ⟨hle, Nat.zero_add _, by simp [FixedW.put, FixedW.new]⟩

/-- An operation that throws changes nothing at all. -/
theorem fixedwriter_failed_write_noop (w : FixedW) (op : FOp) (h : w.apply op = .throw) : w.step op = w := by
  simp [FixedW.step, h]

/-- After every history, `capacity()` is the constructor argument,
    `available() + written = capacity()`, `getWrittenView()` is exactly the accepted bytes in order,
    and the next operation, whatever it is, does not fault. -/
theorem fixedwriter_accounting (init : List UInt8) (hcap : init.length < W) (hist : List FOp) :
    (FixedW.runR init hist).Inv ∧ (FixedW.runR init hist).capacity = init.length ∧
    (FixedW.runR init hist).available + (FixedW.runR init hist).cursor = (FixedW.runR init hist).capacity ∧
    (FixedW.runR init hist).writtenView = some (specRun init.length hist) ∧
    (∀ op, (FixedW.runR init hist).apply op ≠ .fault) := by
  obtain ⟨hle, heq⟩ := FixedW.runR_eq init hcap hist
  rw [heq]
  obtain ⟨hi, hml, _⟩ := FixedW.new_put_inv hcap hle
  refine ⟨hi, hml, ?_, FixedW.writtenView_new_put init _, fun op => ?_⟩
  · rw [FixedW.available_eq _ hi]; exact Nat.sub_add_cancel hi.2
  · rw [FixedW.apply_spec _ hi op]; split <;> nofun

/-- Typed writes (`fixedWriter << v`): the whole value sequence goes through exactly when its
    encoding fits into `available()`; then exactly `encodeL vs` is stored at the cursor. Otherwise an
    exception (never a fault). -/
theorem fixedwriter_typed_iff_fits (w : FixedW) (h : w.Inv) (vs : List Val) :
    ((encodeL vs).length ≤ w.available → w.writeChunks (chunksL vs) = .ok (w.put (encodeL vs))) ∧
    (¬ (encodeL vs).length ≤ w.available → w.writeChunks (chunksL vs) = .throw) := by
  rw [FixedW.le_available_iff w h, FixedW.writeChunks_spec w h]
  exact ⟨fun hf => if_pos hf, fun hf => if_neg hf⟩

/-- Round trip FixedBufferWriter → getWrittenView() → BufferReader. -/
theorem roundtrip_through_fixedwriter (ts : List Ty) (vs : List Val) (h : WTL ts vs) (init : List UInt8)
    (hcap : init.length < W) (hfit : (encodeL vs).length ≤ init.length) :
    ∃ w view r', (FixedW.new init).writeChunks (chunksL vs) = .ok w ∧ w.writtenView = some view ∧
      view = encodeL vs ∧ readAll ts ⟨view, 0⟩ = .ok (vs, r') ∧ r'.atEnd = true := by
  have hi := FixedW.new_inv hcap
  have hw := (fixedwriter_typed_iff_fits _ hi vs).1 ((FixedW.le_available_iff _ hi _).mpr (FixedW.new_fits hfit))
  have hrt := reader_roundtrip ts vs h [] [] (by simp; omega)
  simp only [List.nil_append, List.append_nil, List.length_nil, Nat.zero_add] at hrt
  exact ⟨_, _, _, hw, FixedW.writtenView_new_put init _, rfl, hrt, by simp [Reader.atEnd]⟩

/-- vector<vector<int32>> {{1},{}} , a string, an array of two 2-byte elements -/
def exTs : List Ty := [.vec (.vec (.pod 4)), .str, .arr 2]
def exVs : List Val :=
  [.vec [.vec [.pod [1, 0, 0, 0]], .vec []], .str [104, 105], .arr 2 [1, 2, 3, 4]]

example : WTL exTs exVs := by
  simp [exTs, exVs, WTL, WT, W]

example : (encodeL exVs).length = 50 := by decide
example : encode (.str []) = [0, 0, 0, 0, 0, 0, 0, 0] := by decide
example : encode (.arr 2 [1, 2, 3, 4]) = [2, 0, 0, 0, 0, 0, 0, 0, 1, 2, 3, 4] := by decide
example : (FixedW.mk [0, 0, 0, 0] 1).Inv := by simp [FixedW.Inv, W]
example : (FixedW.mk [0, 0, 0, 0] 1).rejects 3 = false ∧ (FixedW.mk [0, 0, 0, 0] 1).rejects 4 = true ∧
    (FixedW.mk [0, 0, 0, 0] 1).rejects (W - 1) = true := by decide
example : (Reader.mk [1, 2, 3] 3).Inv ∧ (Reader.mk [1, 2, 3] 3).atEnd = true ∧
    (Reader.mk [1, 2, 3] 2).atEnd = false := by simp [Reader.Inv, Reader.atEnd, Reader.size, W]
example : specRun 4 [.write 2 (fun _ => 7), .write 5 (fun _ => 9), .reserve 2 (fun _ => 1)] = [1, 1, 7, 7] := by
  decide

end RkVerif.C15
