/-
Property C17 — index maps are bijections and 3D array adaptors address the right cell.
Every theorem declared in this module is an audited proof obligation of the check.

The hypotheses.  `tot2N`/`tot3N`/`tot3i d` are the mathematical (unbounded) products of the extents, `idxN d c` the
mathematical index `c.x + d.x·(c.y + d.y·c.z)`; the only size hypothesis is "the mathematical total fits 64 bits".
Beyond it only representability as `int` is assumed where the C++ has an `int` (`Dims31`: every extent in
`[0, 2^31)`; `multislice_get`: fewer than `2^31` slices).
-/
import RkVerif.Lemmas.C17

namespace RkVerif.C17

/-! ## 1. multidim_index_sequence: flatten / reshape are mutually inverse bijections, no overflow -/

/-- no_overflow_64 (sequences): the 64-bit results of `total_indices()`, `flatten` and `reshape` are the
    mathematical values (no intermediate wraps, see `flat_machine` in Lemmas/C17.lean). -/
theorem no_overflow_64 (d : V3 U64) (ht : tot3N d < 2 ^ 64) :
    (total3 d).toNat = tot3N d ∧
    (∀ c, In3 d c → (flatten3 d c).toNat = c.x.toNat + d.x.toNat * (c.y.toNat + d.y.toNat * c.z.toNat) ∧
        (flatten3 d c).toNat < tot3N d) ∧
    (∀ i : U64, i.toNat < tot3N d →
        (reshape3 d i).x.toNat = i.toNat % d.x.toNat ∧
        (reshape3 d i).y.toNat = i.toNat / d.x.toNat % d.y.toNat ∧
        (reshape3 d i).z.toNat = i.toNat / d.x.toNat / d.y.toNat) :=
  ⟨total3_toNat ht, fun _ hc => flatten3_toNat hc ht, fun i hi => reshape3_digits i (xy_lt hi ht)⟩

theorem no_overflow_64_2D (d : V2 U64) (ht : tot2N d < 2 ^ 64) :
    (total2 d).toNat = tot2N d ∧
    (∀ c, In2 d c → (flatten2 d c).toNat = c.x.toNat + d.x.toNat * c.y.toNat ∧ (flatten2 d c).toNat < tot2N d) ∧
    (∀ i : U64, (reshape2 d i).x.toNat = i.toNat % d.x.toNat ∧ (reshape2 d i).y.toNat = i.toNat / d.x.toNat) :=
  ⟨total2_toNat ht, fun _ hc => flatten2_toNat hc ht, fun i => reshape2_toNat d i⟩

/-- flatten_reshape (3D): every index below the total reshapes to a coordinate inside the extent which
    flattens back to the index. -/
theorem flatten_reshape (d : V3 U64) (ht : tot3N d < 2 ^ 64) (i : U64) (hi : i.toNat < tot3N d) :
    In3 d (reshape3 d i) ∧ flatten3 d (reshape3 d i) = i := by
  obtain ⟨hx, hy, hz⟩ := reshape3_digits i (xy_lt hi ht)
  have hin : In3 d (reshape3 d i) := by
    simp only [In3, UInt64.lt_iff_toNat_lt, hx, hy, hz]; exact coords_lt hi
  refine ⟨hin, UInt64.toNat_inj.mp ?_⟩
  rw [(flatten3_toNat hin ht).1, hx, hy, hz]
  exact flatN_coords _ _ _

/-- reshape_flatten (3D): every coordinate inside the extent flattens to an index below the total which
    reshapes back to the coordinate. -/
theorem reshape_flatten (d c : V3 U64) (ht : tot3N d < 2 ^ 64) (hc : In3 d c) :
    (flatten3 d c).toNat < tot3N d ∧ reshape3 d (flatten3 d c) = c := by
  obtain ⟨hf, hlt⟩ := flatten3_toNat hc ht
  obtain ⟨hx, hy, hz⟩ := reshape3_digits (flatten3 d c) (xy_lt hlt ht)
  refine ⟨hlt, V3.toNat_ext ?_ ?_ ?_⟩
  · rw [hx, hf, flatN_x hc.lt.1]
  · rw [hy, hf, flatN_y hc.lt.1 hc.lt.2.1]
  · rw [hz, hf, flatN_z hc.lt.1 hc.lt.2.1]

theorem flatten_reshape_2D (d : V2 U64) (ht : tot2N d < 2 ^ 64) (i : U64) (hi : i.toNat < tot2N d) :
    In2 d (reshape2 d i) ∧ flatten2 d (reshape2 d i) = i := by
  obtain ⟨hx, hy⟩ := reshape2_toNat d i
  have hdx : 0 < d.x.toNat := Nat.pos_of_ne_zero fun h => by simp [tot2N, h] at hi
  have hin : In2 d (reshape2 d i) := by
    simp only [In2, UInt64.lt_iff_toNat_lt, hx, hy]
    exact ⟨Nat.mod_lt _ hdx, Nat.div_lt_of_lt_mul hi⟩
  refine ⟨hin, UInt64.toNat_inj.mp ?_⟩
  rw [(flatten2_toNat hin ht).1, hx, hy]
  exact Nat.mod_add_div _ _

theorem reshape_flatten_2D (d c : V2 U64) (ht : tot2N d < 2 ^ 64) (hc : In2 d c) :
    (flatten2 d c).toNat < tot2N d ∧ reshape2 d (flatten2 d c) = c := by
  obtain ⟨hf, hlt⟩ := flatten2_toNat hc ht
  obtain ⟨hx, hy⟩ := reshape2_toNat d (flatten2 d c)
  refine ⟨hlt, V2.toNat_ext ?_ ?_⟩
  · rw [hx, hf, flat2_mod hc.lt.1]
  · rw [hy, hf, flat2_div hc.lt.1]

/-! ## 2. iterating a sequence visits every coordinate exactly once, in flattened order; backwards in reverse -/

/-- The range-for loop over a 3D sequence (begin/end/`!=`/`++`/`*` as modelled by `iterLoop`) visits
    exactly `reshape 0, reshape 1, …, reshape (total-1)`. -/
theorem iterate_eq_reshape_range (d : V3 U64) :
    iterate3 d = (List.range (total3 d).toNat).map (fun i => reshape3 d (UInt64.ofNat i)) :=
  iterLoop_range ..

/-- iterate_exactly_once (3D): the flattened indices of the visited coordinates are exactly
    `0,1,…,total-1` in this order — every coordinate of the extent once, in increasing flattened order. -/
theorem iterate_exactly_once (d : V3 U64) (ht : tot3N d < 2 ^ 64) :
    (iterate3 d).map (fun c => (flatten3 d c).toNat) = List.range (tot3N d) :=
  (iterLoop_spec (total3_toNat ht) (flatten_reshape d ht) fun c => reshape_flatten d c ht).1

theorem iterate_mem (d : V3 U64) (ht : tot3N d < 2 ^ 64) (c : V3 U64) : c ∈ iterate3 d ↔ In3 d c :=
  (iterLoop_spec (total3_toNat ht) (flatten_reshape d ht) fun c => reshape_flatten d c ht).2 c

theorem iterate_nodup (d : V3 U64) (ht : tot3N d < 2 ^ 64) : (iterate3 d).Nodup :=
  List.Pairwise.of_map (fun c => (flatten3 d c).toNat) (fun _ _ h e => h (e ▸ rfl))
    (iterate_exactly_once d ht ▸ List.nodup_range)

theorem iterate_eq_reshape_range_2D (d : V2 U64) :
    iterate2 d = (List.range (total2 d).toNat).map (fun i => reshape2 d (UInt64.ofNat i)) :=
  iterLoop_range ..

theorem iterate_exactly_once_2D (d : V2 U64) (ht : tot2N d < 2 ^ 64) :
    (iterate2 d).map (fun c => (flatten2 d c).toNat) = List.range (tot2N d) :=
  (iterLoop_spec (total2_toNat ht) (flatten_reshape_2D d ht) fun c => reshape_flatten_2D d c ht).1

theorem iterate_mem_2D (d : V2 U64) (ht : tot2N d < 2 ^ 64) (c : V2 U64) : c ∈ iterate2 d ↔ In2 d c :=
  (iterLoop_spec (total2_toNat ht) (flatten_reshape_2D d ht) fun c => reshape_flatten_2D d c ht).2 c

/-- backward_is_reverse (3D): walking an index sequence backwards with `--it; *it` visits exactly the coordinates of the
    range-based for loop, in reverse order — in particular `*it` after `--it` is the element `it` now designates. -/
theorem backward_is_reverse (d : V3 U64) :
    backward3 d = (iterate3 d).reverse :=
  backLoop_reverse ..

theorem backward_is_reverse_2D (d : V2 U64) :
    backward2 d = (iterate2 d).reverse :=
  backLoop_reverse ..

/-! ## 3. array3D: longProduct / longIndex / coordsOf -/

/-- no_overflow_64 (array3D): `longProduct` and `longIndex` (= `ActualArray3D::indexOf`) are the mathematical
    product and index. -/
theorem no_overflow_64_array3D (d : V3i) (hd : Dims31 d) (ht : tot3i d < 2 ^ 64) :
    (longProduct d).toNat = tot3i d ∧
    (∀ c, In3i d c → (longIndex c d).toNat = idxN d c ∧ (longIndex c d).toNat < tot3i d) :=
  ⟨longProduct_toNat hd ht, fun _ hc => ⟨longIndex_toNat hd hc ht, longIndex_toNat hd hc ht ▸ idxN_lt hc⟩⟩

/-- coords_longIndex (→): `coordsOf (longIndex c) = c` for every coordinate inside the extent. -/
theorem coords_longIndex (d c : V3i) (hd : Dims31 d) (ht : tot3i d < 2 ^ 64) (hc : In3i d c) :
    (longIndex c d).toNat < tot3i d ∧ coordsOf (longIndex c d) d = c := by
  have hi := longIndex_toNat hd hc ht
  have hlt : (longIndex c d).toNat < tot3i d := hi ▸ idxN_lt hc
  obtain ⟨bx, by_, _⟩ := hc.lt
  refine ⟨hlt, ?_⟩
  rw [coordsOf_eq hd hlt, hi, idxN, flatN_x bx, flatN_y bx by_, flatN_z bx by_,
    Int.toNat_of_nonneg hc.1.1, Int.toNat_of_nonneg hc.2.1.1, Int.toNat_of_nonneg hc.2.2.1]

/-- coords_longIndex (←): `longIndex (coordsOf i) = i` and `coordsOf i` is inside the extent, for every
    index below the total. -/
theorem longIndex_coords (d : V3i) (hd : Dims31 d) (ht : tot3i d < 2 ^ 64) (i : U64) (hi : i.toNat < tot3i d) :
    In3i d (coordsOf i d) ∧ longIndex (coordsOf i d) d = i := by
  obtain ⟨b1, b2, b3⟩ := coords_lt hi
  have hin : In3i d (coordsOf i d) := coordsOf_eq hd hi ▸ In3i.ofNat b1 b2 b3
  refine ⟨hin, UInt64.toNat_inj.mp ?_⟩
  rw [longIndex_toNat hd hin ht, coordsOf_eq hd hi]
  exact flatN_coords _ _ _

/-! ## 4. for_each visits every coordinate of the region exactly once, in flattened order -/

/-- for_each_exactly_once: for *every* lower/upper (also empty or inverted boxes) the functor is called
    with exactly the coordinates of `[lower,upper)`, none twice, in (z, then y, then x) order. -/
theorem for_each_exactly_once (l u : V3i) :
    (∀ c, c ∈ forEach l u ↔ InBox l u c) ∧ (forEach l u).Nodup ∧ (forEach l u).Pairwise lexLt := by
  refine ⟨fun c => mem_forEach, (forEach_pairwise l u).imp ?_, forEach_pairwise l u⟩
  intro a b h he; subst he
  unfold lexLt at h; omega

/-- `for_each(size, f)` calls `f` on the coordinates with linear index `0,1,…,total-1`, in this order. -/
theorem for_each_size_flat_order (s : V3i) (hd : Dims31 s) (ht : tot3i s < 2 ^ 64) :
    (forEachSize s).map (fun c => (longIndex c s).toNat) = List.range (tot3i s) := by
  rw [← forEachSize_idxN s]
  exact List.map_congr_left fun c hc => longIndex_toNat hd (mem_forEachSize.mp hc) ht

/-- for_each over any sub-box of an array's extent visits cells in strictly increasing linear index. -/
theorem for_each_increasing_index (d l u : V3i) (hd : Dims31 d) (ht : tot3i d < 2 ^ 64)
    (hl : 0 ≤ l.x ∧ 0 ≤ l.y ∧ 0 ≤ l.z) (hu : u.x ≤ d.x ∧ u.y ≤ d.y ∧ u.z ≤ d.z) :
    (forEach l u).Pairwise (fun a b => (longIndex a d).toNat < (longIndex b d).toNat) := by
  have hin : ∀ {c}, c ∈ forEach l u → In3i d c := fun hc => (mem_forEach.mp hc).in3i hl hu
  refine (forEach_pairwise l u).imp_of_mem fun ha hb h => ?_
  rw [longIndex_toNat hd (hin ha) ht, longIndex_toNat hd (hin hb) ht]
  exact lexLt_idxN (hin ha) h

/-! ## 5. ActualArray3D: get returns the value last set (clamping outside coordinates) -/

/-- `indexOf` / `numElements` are the mathematical index / cell count (`indexOf` is `longIndex`, and
    `numElements`, `allocCount` are `longProduct`, by unfolding). -/
theorem indexOf_numElements (a : Actual) (hw : a.WF) :
    a.numElements.toNat = tot3i a.dims ∧ (∀ c, In3i a.dims c → (a.indexOf c).toNat = idxN a.dims c) ∧
    (Actual.allocCount a.dims).toNat = tot3i a.dims :=
  ⟨longProduct_toNat hw.1 hw.2.1, fun _ hc => longIndex_toNat hw.1 hc hw.2.1, longProduct_toNat hw.1 hw.2.1⟩

/-- get reads cell `idxN c` of the value array for a coordinate inside the extent -/
theorem get_reads_cell (a : Actual) (hw : a.WF) (c : V3i) (hc : In3i a.dims c) :
    idxN a.dims c < a.vals.length ∧ a.get c = a.vals.getD (idxN a.dims c) 0 :=
  ⟨hw.2.2 ▸ idxN_lt hc, Actual.get_eq hw hc⟩

/-- get_set: after `set(c, v)`, `get(c) = v` and every other cell is unchanged -/
theorem get_set (a : Actual) (hw : a.WF) (c c' : V3i) (hc : In3i a.dims c) (hc' : In3i a.dims c') (v : Int) :
    (a.set c v).get c' = if c' = c then v else a.get c' := Actual.get_set hw hc hc' v

/-- get_clamps: `get(w)` for any `w` equals `get` of the nearest cell of the (non-empty) extent: per axis
    `0` below, `d-1` above, `w` itself inside. -/
theorem get_clamps (a : Actual) (hne : NonEmpty a.dims) (w : V3i) :
    let c : V3i := ⟨if w.x < 0 then 0 else if a.dims.x ≤ w.x then a.dims.x - 1 else w.x,
                   if w.y < 0 then 0 else if a.dims.y ≤ w.y then a.dims.y - 1 else w.y,
                   if w.z < 0 then 0 else if a.dims.z ≤ w.z then a.dims.z - 1 else w.z⟩
    a.get w = a.get c ∧ In3i a.dims c := by
  intro c
  have hc : a.clampWhere w = c := by
    rw [clampWhere_eq, clamp_if hne.1, clamp_if hne.2.1, clamp_if hne.2.2]
  exact hc ▸ ⟨Actual.get_clamp a w, clampWhere_in hne w⟩

inductive AOp where
  | set (c : V3i) (v : Int)
  | clear (v : Int)

/-- `set` is only defined for coordinates inside the extent ("where MUST be a valid cell location") -/
def AOp.valid (d : V3i) : AOp → Prop
  | .set c _ => In3i d c
  | .clear _ => True

def astep (a : Actual) : AOp → Actual
  | .set c v => a.set c v
  | .clear v => a.clear v

/-- history given most-recent-first -/
def arunR (a0 : Actual) : List AOp → Actual
  | [] => a0
  | op :: earlier => astep (arunR a0 earlier) op

def lastWrite (c : V3i) : List AOp → Option Int
  | [] => none
  | .set c' v :: earlier => if c' = c then some v else lastWrite c earlier
  | .clear v :: _ => some v

/-- get_last_set: after *every* history of valid `set`/`clear` calls, `get(c)` is the value most
    recently written to `c` (by a `set` at `c` or a `clear`), or the initial content if there was none. -/
theorem get_last_set (a0 : Actual) (hw : a0.WF) (hist : List AOp) (hv : ∀ op ∈ hist, op.valid a0.dims)
    (c : V3i) (hc : In3i a0.dims c) :
    (arunR a0 hist).get c = (lastWrite c hist).getD (a0.get c) ∧
      (arunR a0 hist).WF ∧ (arunR a0 hist).dims = a0.dims := by
  induction hist with
  | nil => exact ⟨rfl, hw, rfl⟩
  | cons op earlier ih =>
    obtain ⟨ih1, ih2, ih3⟩ := ih (fun op h => hv op (List.mem_cons_of_mem _ h))
    have hop := hv op List.mem_cons_self
    rw [← ih3] at hc hop
    cases op with
    | set c' v =>
      refine ⟨?_, Actual.set_WF ih2 c' v, ih3⟩
      show ((arunR a0 earlier).set c' v).get c = (if c' = c then some v else lastWrite c earlier).getD _
      rw [Actual.get_set ih2 hop hc v]
      by_cases h : c = c'
      · subst h; simp
      · simp [h, Ne.symm h, ih1]
    | clear v =>
      obtain ⟨r1, r2, r3⟩ := Actual.clear_spec ih2 v
      exact ⟨r3 c hc, r1, r2.trans ih3⟩

/-! ## 6. adaptors return exactly the underlying cell their definition names
    (generic in the underlying `Array3D`, hence also for adaptors over adaptors) -/

/-- shifted_get: for a location with `where + size + shift ≥ 0` on every axis (in particular every
    `where ≥ 0` with `shift ≥ -size`) the shifted array returns the underlying cell
    `(where + shift) mod size` (mathematical, non-negative mod), which lies inside the extent.
    (Outside this hypothesis C++ `%` truncates towards zero; the model follows the code there too.) -/
theorem shifted_get {V : Type} (a : Array3D V) (s w : V3i) (hne : NonEmpty a.size)
    (h : 0 ≤ w.x + a.size.x + s.x ∧ 0 ≤ w.y + a.size.y + s.y ∧ 0 ≤ w.z + a.size.z + s.z) :
    let c : V3i := ⟨(w.x + s.x) % a.size.x, (w.y + s.y) % a.size.y, (w.z + s.z) % a.size.z⟩
    (shifted a s).get w = a.get c ∧ In3i a.size c ∧ (shifted a s).size = a.size := by
  intro c
  have e : ∀ {p n q : Int}, 0 ≤ p + n + q → (p + n + q).tmod n = (p + q) % n := by
    intro p n q h0
    rw [Int.tmod_eq_emod_of_nonneg h0, Int.add_right_comm, Int.add_emod_right]
  have m : ∀ {n : Int} (p : Int), 0 < n → 0 ≤ p % n ∧ p % n < n := fun p hn =>
    ⟨Int.emod_nonneg _ (Int.ne_of_gt hn), Int.emod_lt_of_pos _ hn⟩
  refine ⟨?_, ⟨m _ hne.1, m _ hne.2.1, m _ hne.2.2⟩, rfl⟩
  simp only [shifted, V3i.tmod, V3i.add, e h.1, e h.2.1, e h.2.2, c]

/-- accessor_get: the accessor returns the cast of the underlying cell at the *same* location and has
    the same size (this is the whole content of the adaptor). -/
theorem accessor_get {A B : Type} (cast : A → B) (a : Array3D A) (w : V3i) :
    (accessor cast a).get w = cast (a.get w) ∧ (accessor cast a).size = a.size := ⟨rfl, rfl⟩

/-- subbox_get: a location inside the sub-box's own size addresses the underlying cell
    `where + lower`, which lies inside the clip box (and inside the underlying extent when the clip box does). -/
theorem subbox_get {V : Type} (a : Array3D V) (lo up w : V3i)
    (hw : In3i (subBox a lo up).size w) :
    (subBox a lo up).get w = a.get ⟨w.x + lo.x, w.y + lo.y, w.z + lo.z⟩ ∧
      InBox lo up ⟨w.x + lo.x, w.y + lo.y, w.z + lo.z⟩ ∧
      ((0 ≤ lo.x ∧ 0 ≤ lo.y ∧ 0 ≤ lo.z) → (up.x ≤ a.size.x ∧ up.y ≤ a.size.y ∧ up.z ≤ a.size.z) →
        In3i a.size ⟨w.x + lo.x, w.y + lo.y, w.z + lo.z⟩) := by
  have hb : InBox lo up ⟨w.x + lo.x, w.y + lo.y, w.z + lo.z⟩ := by
    have ax : ∀ {w l u : Int}, 0 ≤ w ∧ w < u - l → l ≤ w + l ∧ w + l < u := by omega
    exact ⟨ax hw.1, ax hw.2.1, ax hw.2.2⟩
  exact ⟨rfl, hb, hb.in3i⟩

/-- multislice_get: with `n = 1 + rest.length` slices (`n` an `int`), location `w` addresses slice
    `clamp(w.z, 0, n-1)` at `(w.x, w.y, 0)`; the reported z-size is `n`. -/
theorem multislice_get {V : Type} (s0 : Array3D V) (rest : List (Array3D V)) (w : V3i)
    (hn : rest.length + 1 < 2 ^ 31) :
    let k : Nat := (max 0 (min w.z (rest.length : Int))).toNat
    (multiSlice s0 rest).get w = ((s0 :: rest).getD k s0).get ⟨w.x, w.y, 0⟩ ∧ k < (s0 :: rest).length ∧
      (0 ≤ w.z → w.z < (rest.length : Int) + 1 → k = w.z.toNat) ∧
      (multiSlice s0 rest).size = ⟨s0.size.x, s0.size.y, (rest.length : Int) + 1⟩ := by
  intro k
  have hI : toI32 (UInt64.ofNat (s0 :: rest).length) = (rest.length : Int) + 1 := by
    have hN : (UInt64.ofNat (s0 :: rest).length).toNat = rest.length + 1 := ofNat_toNat_lt hn (by decide)
    rw [toI32_small (hN ▸ hn), hN]; rfl
  have hk : (toU (clampI w.z 0 ((rest.length : Int) + 1 - 1))).toNat = k := by
    rw [clampI, Int.add_sub_cancel, Int.max_comm]
    exact toU_toNat (Int.le_max_left ..) (by omega)
  refine ⟨?_, ?_, fun h1 h2 => ?_, ?_⟩
  · simp only [multiSlice, hI, hk]
  · simp only [k, List.length_cons]; omega
  · simp only [k]; rw [Int.min_eq_left (Int.le_of_lt_add_one h2), Int.max_eq_right h1]
  · simp only [multiSlice, hI]

/-! ## 7. getValueRange -/

/-- value_range_tight: for a non-empty region the returned range bounds the value of every cell of the
    region, and both bounds are attained by cells of the region.  (`a.get` is whatever the array returns
    at a location — for coordinates outside an ActualArray3D's extent the clamped cell.) -/
theorem value_range_tight (a : Array3D Int) (b e : V3i) (hne : b.x < e.x ∧ b.y < e.y ∧ b.z < e.z) :
    (∀ c, InBox b e c → (getValueRange a b e).1 ≤ a.get c ∧ a.get c ≤ (getValueRange a b e).2) ∧
    (∃ c, InBox b e c ∧ a.get c = (getValueRange a b e).1) ∧
    (∃ c, InBox b e c ∧ a.get c = (getValueRange a b e).2) := by
  -- `begin` is a cell of the region, so the visited values are exactly the region's
  have hmem : ∀ v, v ∈ a.get b :: (forEach b e).map a.get ↔ ∃ c, InBox b e c ∧ a.get c = v := by
    intro v
    simp only [List.mem_cons, List.mem_map, mem_forEach]
    exact ⟨fun h => h.elim (fun h => ⟨b, by unfold InBox; omega, h.symm⟩) id, .inr⟩
  obtain ⟨hmin, hmax⟩ := getValueRange_eq a b e
  obtain ⟨m1, m2⟩ := List.min?_eq_some_iff.mp hmin
  obtain ⟨M1, M2⟩ := List.max?_eq_some_iff.mp hmax
  exact ⟨fun c hc => ⟨m2 _ ((hmem _).mpr ⟨c, hc, rfl⟩), M2 _ ((hmem _).mpr ⟨c, hc, rfl⟩)⟩,
    (hmem _).mp m1, (hmem _).mp M1⟩

/-- `getValueRange()` is the range over the whole extent `[0,size)` -/
theorem value_range_all_tight (a : Array3D Int) (hne : NonEmpty a.size) :
    (∀ c, In3i a.size c → (getValueRangeAll a).1 ≤ a.get c ∧ a.get c ≤ (getValueRangeAll a).2) ∧
    (∃ c, In3i a.size c ∧ a.get c = (getValueRangeAll a).1) ∧
    (∃ c, In3i a.size c ∧ a.get c = (getValueRangeAll a).2) :=
  value_range_tight a (V3i.splat 0) a.size hne

/-! ## non-vacuity: the hypotheses are satisfiable, and concrete instances (extent 3×2×4 / 65536×65536×2) -/

example : tot3N ⟨65536, 65536, 2⟩ < 2 ^ 64 ∧ In3 ⟨65536, 65536, 2⟩ ⟨65535, 65535, 1⟩ := by decide
example : Dims31 ⟨65536, 65536, 2⟩ ∧ tot3i ⟨65536, 65536, 2⟩ < 2 ^ 64 ∧ In3i ⟨65536, 65536, 2⟩ ⟨65535, 65535, 1⟩ := by decide
example : flatten3 ⟨65536, 65536, 2⟩ ⟨65535, 65535, 1⟩ = 8589934591 := by decide
example : (longIndex ⟨65535, 65535, 1⟩ ⟨65536, 65536, 2⟩).toNat = 8589934591 := by decide
example : reshape3 ⟨3, 2, 4⟩ 17 = ⟨2, 1, 2⟩ := by decide
example : (⟨⟨3, 2, 4⟩, List.replicate 24 0⟩ : Actual).WF := by unfold Actual.WF; decide
example : NonEmpty ⟨3, 2, 4⟩ := by unfold NonEmpty; decide
example : AOp.valid ⟨3, 2, 4⟩ (.set ⟨2, 1, 3⟩ 5) := by show In3i _ _; decide
example : iterate3 ⟨2, 1, 2⟩ = [⟨0, 0, 0⟩, ⟨1, 0, 0⟩, ⟨0, 0, 1⟩, ⟨1, 0, 1⟩] := by rw [iterate_eq_reshape_range]; decide
example : forEach ⟨-1, 0, 0⟩ ⟨1, 2, 1⟩ = [⟨-1, 0, 0⟩, ⟨0, 0, 0⟩, ⟨-1, 1, 0⟩, ⟨0, 1, 0⟩] := by rw [forEach_eq]; decide
/-- the hypothesis of `shifted_get` is needed: with shift = -(size+1) C++ `%` yields -1, which the underlying
    get clamps to cell 0 (a cyclic shift would address cell 2) -/
example : (shifted (⟨⟨3, 1, 1⟩, [10, 20, 30]⟩ : Actual).toArray3D ⟨-4, 0, 0⟩).get ⟨0, 0, 0⟩ = 10 := by decide
example : (shifted (⟨⟨3, 1, 1⟩, [10, 20, 30]⟩ : Actual).toArray3D ⟨-1, 0, 0⟩).get ⟨0, 0, 0⟩ = 30 := by decide
example : getValueRange (⟨⟨3, 1, 1⟩, [10, -20, 30]⟩ : Actual).toArray3D ⟨0, 0, 0⟩ ⟨2, 1, 1⟩ = (-20, 10) := by
  unfold getValueRange; rw [forEach_eq]; decide

example : backLoop reshape2 (⟨2, 2⟩ : V2 U64) 4 = [⟨1, 1⟩, ⟨0, 1⟩, ⟨1, 0⟩, ⟨0, 0⟩] := by
  rw [backLoop_reverse, iterLoop_range]; decide

end RkVerif.C17
