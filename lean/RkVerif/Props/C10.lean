/-
Property C10 — FlatMap and ParameterizedObject conform to an insertion-ordered
unique-key map.  Property theorems (model: Model/C10.lean, helpers: Lemmas/C10.lean); every theorem
declared in this module is an audited proof obligation of the check.
-/
import RkVerif.Lemmas.C10

namespace RkVerif.C10

variable {K V : Type} [DecidableEq K]

theorem step_keys_nodup (dflt : V) (m : Items K V) (op : Op K V) (h : (keys m).Nodup) :
    (keys (step dflt m op)).Nodup := by
  cases op with
  | set k v =>
    simp only [step, keys_set]; split
    · exact h
    · exact nodup_snoc _ _ h ‹_›
  | idx k =>
    simp only [step, index]; split
    · exact h
    · rename_i hk
      have hk' := (lookup_none_iff m k).mp hk
      simpa [keys] using nodup_snoc _ _ h hk'
  | atSet k v =>
    simp only [step, atSet]; split
    · rename_i v' hv
      have := mem_keys_of_lookup m k v' hv
      simp [keys_set, this, h]
    · simpa using h
  | erase k => simp only [step, keys_erase]; exact h.filter _
  | clear => simp [step, keys]

/-- keys_nodup: after *every* history a key is stored at most once. -/
theorem keys_nodup (dflt : V) (hist : List (Op K V)) : (keys (runR dflt hist)).Nodup := by
  induction hist with
  | nil => simp [runR, keys]
  | cons op earlier ih => exact step_keys_nodup dflt _ op ih

/-- The reference map: a partial function plus the first-insertion order. -/
structure Ref (K V : Type) where
  val : K → Option V
  order : List K

def abs (m : Items K V) : Ref K V := ⟨lookup m, keys m⟩

def Ref.step (dflt : V) (r : Ref K V) : Op K V → Ref K V
  | .set k v => ⟨fun x => if x = k then some v else r.val x, if k ∈ r.order then r.order else r.order ++ [k]⟩
  | .idx k => match r.val k with
      | some _ => r
      | none => ⟨fun x => if x = k then some dflt else r.val x, r.order ++ [k]⟩
  | .atSet k v => match r.val k with
      | some _ => ⟨fun x => if x = k then some v else r.val x, r.order⟩
      | none => r
  | .erase k => ⟨fun x => if x = k then none else r.val x, r.order.filter (· ≠ k)⟩
  | .clear => ⟨fun _ => none, []⟩

theorem flatmap_refines_step (dflt : V) (m : Items K V) (op : Op K V) :
    abs (step dflt m op) = (abs m).step dflt op := by
  cases op with
  | set k v =>
    simp only [abs, step, Ref.step, keys_set, Ref.mk.injEq]
    exact ⟨funext fun x => lookup_set m k x v, rfl⟩
  | idx k =>
    simp only [abs, step, Ref.step, index]
    cases hk : lookup m k with
    | some v => simp
    | none =>
      simp only [keys, List.map_append, List.map_cons, List.map_nil, Ref.mk.injEq, and_true]
      funext x; exact lookup_append_absent m k x dflt hk
  | atSet k v =>
    simp only [abs, step, Ref.step, atSet]
    cases hk : lookup m k with
    | none => simp
    | some v' =>
      simp only [Option.getD_some, keys_set, mem_keys_of_lookup m k v' hk, ↓reduceIte, Ref.mk.injEq, and_true]
      exact funext fun x => lookup_set m k x v
  | erase k =>
    simp only [abs, step, Ref.step, keys_erase, Ref.mk.injEq, and_true]
    exact funext (lookup_erase m k)
  | clear =>
    simp only [abs, step, Ref.step, keys, List.map_nil, Ref.mk.injEq, and_true]
    funext x; simp [lookup]

def Ref.runR (dflt : V) : List (Op K V) → Ref K V
  | [] => ⟨fun _ => none, []⟩
  | op :: earlier => (Ref.runR dflt earlier).step dflt op

/-- flatmap_refines: after every history the FlatMap's observable content (lookup function and
    key order) is that of the reference map driven by the same history. -/
theorem flatmap_refines (dflt : V) (hist : List (Op K V)) :
    abs (runR dflt hist) = Ref.runR dflt hist := by
  induction hist with
  | nil =>
    simp only [runR, Ref.runR, abs, keys, List.map_nil, Ref.mk.injEq, and_true]
    funext x; simp [lookup]
  | cons op earlier ih => simp [runR, Ref.runR, flatmap_refines_step, ih]

/-- `at` throws exactly for absent keys. -/
theorem at_throws_iff_absent (m : Items K V) (k : K) : at? m k = none ↔ k ∉ (abs m).order :=
  lookup_none_iff m k

theorem at_returns_ref (m : Items K V) (k : K) : at? m k = (abs m).val k := rfl

theorem contains_iff (m : Items K V) (k : K) : contains m k = true ↔ k ∈ (abs m).order :=
  Option.isSome_iff_ne_none.trans ((not_congr (lookup_none_iff m k)).trans Decidable.not_not)

/-- `operator[]` returns the stored value, or `VALUE()` for a key it has just inserted. -/
theorem index_returns (m : Items K V) (k : K) (dflt : V) :
    (index m k dflt).2 = ((abs m).val k).getD dflt := by
  simp only [index, abs]; cases lookup m k <;> simp

/-- `at_index` follows the first-insertion order … -/
theorem atIndex_order (m : Items K V) (i : Nat) :
    (atIndex m i).map Prod.fst = (abs m).order[i]? := by
  simp [atIndex, abs, keys]

/-- … and carries the value a key-based lookup returns. -/
theorem atIndex_value (m : Items K V) (i : Nat) (k : K) (v : V) (hn : (keys m).Nodup)
    (h : atIndex m i = some (k, v)) : lookup m k = some v :=
  lookup_of_mem m k v hn (List.mem_of_getElem? h)

/-- erase_preserves_order: removal keeps the relative order (and values) of the rest. -/
theorem erase_preserves_order (m : Items K V) (k : K) :
    erase m k = m.filter (fun i => i.1 ≠ k) ∧ (erase m k).Sublist m :=
  ⟨rfl, List.filter_sublist⟩

/-- reinsertion_goes_last: a key inserted after having been removed is appended. -/
theorem reinsertion_goes_last (m : Items K V) (k : K) (v : V) :
    keys (set (erase m k) k v) = (keys m).filter (· ≠ k) ++ [k] := by
  rw [keys_set, keys_erase]; simp

/-- "Inserted and not since removed", read off the history alone (most recent first). -/
def insertedNotRemoved (k : K) : List (Op K V) → Bool
  | [] => false
  | .set k' _ :: earlier => k' = k || insertedNotRemoved k earlier
  | .idx k' :: earlier => k' = k || insertedNotRemoved k earlier
  | .atSet _ _ :: earlier => insertedNotRemoved k earlier
  | .erase k' :: earlier => k' ≠ k && insertedNotRemoved k earlier
  | .clear :: _ => false

/-- A key is present exactly if it was inserted and not since removed — for every history. -/
theorem present_iff_inserted_not_removed (dflt : V) (hist : List (Op K V)) (k : K) :
    k ∈ keys (runR dflt hist) ↔ insertedNotRemoved k hist = true := by
  induction hist with
  | nil => simp [runR, keys, insertedNotRemoved]
  | cons op earlier ih =>
    cases op with
    | set k' v => grind [runR, step, keys_set, insertedNotRemoved]
    | idx k' =>
      simp only [runR, step, index, insertedNotRemoved, Bool.or_eq_true, decide_eq_true_eq]
      cases hk : lookup (runR dflt earlier) k' with
      | some v =>
        have hmem := mem_keys_of_lookup _ _ _ hk
        grind
      | none => simp [keys, ← ih, or_comm, eq_comm]
    | atSet k' v =>
      simp only [runR, step, atSet, insertedNotRemoved]
      cases hk : lookup (runR dflt earlier) k' with
      | none => simpa using ih
      | some v' =>
        have hmem := mem_keys_of_lookup _ _ _ hk
        simp [keys_set, hmem, ih]
    | erase k' => grind [runR, step, keys_erase, insertedNotRemoved]
    | clear => simp [runR, step, keys, insertedNotRemoved]

/-- A lookup of `k` right after `m[k] = v` returns `v`. -/
theorem lookup_last_written (dflt : V) (hist : List (Op K V)) (k : K) (v : V) :
    lookup (runR dflt (.set k v :: hist)) k = some v := by
  simp [runR, step, lookup_set]

variable {T A : Type} [DecidableEq T]

theorem param_names_nodup (hist : List (POp T A)) : (pnames (prunR hist)).Nodup := by
  induction hist with
  | nil => simp [prunR, pnames]
  | cons op earlier ih =>
    cases op with
    | set n t v =>
      simp only [prunR, pstep, pnames_set]; split
      · exact ih
      · exact nodup_snoc _ _ ih ‹_›
    | get n t d =>
      simp only [prunR, pstep, getParam]
      split
      · exact ih
      · split
        · simpa [pnames_mark] using ih
        · exact ih
    | remove n => exact (pnames_remove_sublist _ n).nodup ih
    | reset =>
      have : pnames (resetQuery (prunR earlier)) = pnames (prunR earlier) := by
        simp [resetQuery, pnames, Function.comp_def]
      simpa [prunR, pstep, this] using ih

/-- param_type_mismatch_default: a read with a type other than the exact stored type (or of an
    absent name) yields the caller's default and leaves the whole object — hence every query
    flag — untouched. -/
theorem param_type_mismatch_default (ps : Params T A) (n : String) (t : T) (d : A)
    (h : ∀ p, findParam ps n = some p → p.tag ≠ t) : getParam ps n t d = (ps, d) := by
  simp only [getParam]
  cases hp : findParam ps n with
  | none => rfl
  | some p => simp [h p hp]

def queried (ps : Params T A) (n : String) : Option Bool := (findParam ps n).map (·.query)

/-- A read with the exact stored type returns the stored value, marks that parameter queried
    and changes no other flag. -/
theorem param_get_success (ps : Params T A) (n : String) (t : T) (d : A) (p : Param T A)
    (hp : findParam ps n = some p) (ht : p.tag = t) :
    (getParam ps n t d).2 = p.val ∧ queried (getParam ps n t d).1 n = some true ∧
    ∀ n2, n2 ≠ n → queried (getParam ps n t d).1 n2 = queried ps n2 := by
  simp only [getParam, hp, ht, ↓reduceIte, queried, findParam_mark, true_and]
  exact ⟨rfl, fun n2 h => by simp [h]⟩

/-- `resetAllParamQueryStatus` clears every flag and nothing else. -/
theorem param_reset_clears (ps : Params T A) (n : String) :
    queried (resetQuery ps) n = (queried ps n).map (fun _ => false) := by
  simp only [queried, findParam_reset]; cases findParam ps n <;> simp

/-- `setParam` never changes the flag of an existing parameter; a fresh one starts unqueried. -/
theorem param_set_keeps_flag (ps : Params T A) (n : String) (t : T) (v : A) :
    queried (setParam ps n t v) n = some ((queried ps n).getD false) ∧
    ∀ n2, n2 ≠ n → queried (setParam ps n t v) n2 = queried ps n2 := by
  simp only [queried, findParam_set]
  exact ⟨by simp, fun n2 h => by simp [h]⟩

/-- History-level query flag: the flag of `n` is true iff a successful typed read of `n`
    happened after the last reset and after the last (re-)creation of `n` (most recent
    operation first; a read succeeds iff the type stored at that moment is the requested one). -/
def queriedSpec (n : String) : List (POp T A) → Option Bool
  | [] => none
  | .set n' _ _ :: earlier =>
      if n' = n then some ((queriedSpec n earlier).getD false) else queriedSpec n earlier
  | .get n' t _ :: earlier =>
      if n' = n then
        match findParam (prunR earlier) n with
        | some p => if p.tag = t then some true else queriedSpec n earlier
        | none => queriedSpec n earlier
      else queriedSpec n earlier
  | .remove n' :: earlier => if n' = n then none else queriedSpec n earlier
  | .reset :: earlier => (queriedSpec n earlier).map (fun _ => false)

theorem param_query_flag (hist : List (POp T A)) (n : String) :
    queried (prunR hist) n = queriedSpec n hist := by
  induction hist with
  | nil => simp [prunR, queried, findParam, queriedSpec]
  | cons op earlier ih =>
    cases op with
    | set n' t v =>
      simp only [prunR, pstep, queriedSpec, ← ih, queried, findParam_set]
      by_cases h : n = n' <;> simp [h, eq_comm]
    | get n' t d =>
      simp only [prunR, pstep, queriedSpec, getParam, ← ih]
      by_cases h : n' = n
      · subst h
        cases hp : findParam (prunR earlier) n' with
        | none => simp
        | some p => by_cases ht : p.tag = t <;> simp [queried, findParam_mark, hp, ht]
      · cases hp : findParam (prunR earlier) n' with
        | none => simp [h]
        | some p => by_cases ht : p.tag = t <;> simp [queried, findParam_mark, ht, h, Ne.symm h]
    | remove n' =>
      simp only [prunR, pstep, queriedSpec, ← ih, queried, findParam_remove _ _ _ (param_names_nodup earlier)]
      by_cases h : n = n' <;> simp [h, eq_comm]
    | reset => simp [prunR, pstep, queriedSpec, param_reset_clears, ih]

theorem hasParam_iff (ps : Params T A) (n : String) : hasParam ps n = true ↔ n ∈ pnames ps :=
  Option.isSome_iff_ne_none.trans ((not_congr (findParam_none_iff ps n)).trans Decidable.not_not)

/-- The order of the parameter list is first-insertion order, with removals keeping the order of the rest. -/
theorem param_order (ps : Params T A) (n : String) (t : T) (v : A) :
    pnames (setParam ps n t v) = (if n ∈ pnames ps then pnames ps else pnames ps ++ [n]) ∧
    (pnames (removeParam ps n)).Sublist (pnames ps) :=
  ⟨pnames_set ps n t v, pnames_remove_sublist ps n⟩

/-! ## non-vacuity: the hypotheses above are met by concrete non-trivial states -/

example : keys (runR (0 : Nat) [Op.set 1 5, .erase 1, .set 2 7, .set 1 3]) = [2, 1] := by decide
example : insertedNotRemoved (V := Nat) 1 [Op.set 1 5, .erase 1, .set 2 7, .set 1 3] = true := by decide
example : (getParam (T := Nat) [{ name := "a", tag := 0, val := 7, query := false }] "a" 1 9).2 = 9 := by decide
example : queriedSpec (T := Nat) (A := Nat) "a" [.get "a" 0 1, .reset, .get "a" 0 1, .set "a" 0 7] = some true := by decide

end RkVerif.C10
