/-
Property C03 — AsyncLoop honours its start/stop/destroy protocol on every interleaving.
Every theorem declared in this module is an audited proof obligation of the check.

`Reachable c s` quantifies over executions of *any length*, every interleaving of the loop thread with the
controlling thread at the granularity of single shared-memory accesses, every sequence of calls over
{start, stop, ~AsyncLoop} (the controller may call anything whenever it is idle, so repeated and redundant
calls are included), spurious wake-ups of the condition variable, and both launch methods (`c.thread`).
`c.fixed = true` is the code after fixes/C03-stop-race.patch; `c.fixed = false` is the pinned code, for
which stop_safety is *refuted* below.
-/
import RkVerif.Lemmas.C03
import RkVerif.Gen.C03Reach

namespace RkVerif.C03

def cT : Cfg := ⟨true, true⟩    -- fixed code, THREAD launch (destructor joins)
def cK : Cfg := ⟨true, false⟩   -- fixed code, TASK launch (no join)

/-! ## Certificates: the generated lists are closed under `step` (kernel-checked) -/

theorem reachT_sub : ∀ s, Reachable cT s → s ∈ reachFixedThread :=
  reach_sub cT reachFixedThread (by decide +kernel) (by decide +kernel)

theorem reachK_sub : ∀ s, Reachable cK s → s ∈ reachFixedTask :=
  reach_sub cK reachFixedTask (by decide +kernel) (by decide +kernel)

theorem invT {P : State → Prop} (h : ∀ s ∈ reachFixedThread, P s) : ∀ s, Reachable cT s → P s :=
  fun s hs => h s (reachT_sub s hs)
theorem invK {P : State → Prop} (h : ∀ s ∈ reachFixedTask, P s) : ∀ s, Reachable cK s → P s :=
  fun s hs => h s (reachK_sub s hs)

theorem cfg_cases (c : Cfg) (hf : c.fixed = true) : c = cT ∨ c = cK := by
  obtain ⟨f, t⟩ := c
  cases t <;> simp_all [cT, cK]

theorem inv_fixed {P : Cfg → State → Prop} (hT : ∀ s ∈ reachFixedThread, P cT s)
    (hK : ∀ s ∈ reachFixedTask, P cK s) (c : Cfg) (hf : c.fixed = true) (s : State)
    (hs : Reachable c s) : P c s := by
  rcases cfg_cases c hf with rfl | rfl
  · exact invT hT s hs
  · exact invK hK s hs

theorem term_fixed (tabT tabK : List (Nat × Nat)) (region target : CPc → Bool)
    (hT : ∀ s ∈ reachFixedThread, Ranked cT (rankOf tabT) (helpOf tabT) region target s)
    (hK : ∀ s ∈ reachFixedTask, Ranked cK (rankOf tabK) (helpOf tabK) region target s)
    (c : Cfg) (hf : c.fixed = true) (σ : Nat → State) (τ : Nat → Thread)
    (h0 : Reachable c (σ 0)) (hd : region (σ 0).cpc = true)
    (hstep : ∀ i, target (σ i).cpc = true ∨ (τ i, σ (i + 1)) ∈ stepNS c (σ i))
    (hfair : ∀ i t, ∃ j, i ≤ j ∧ (τ j = t ∨ enabled c t (σ j) = false ∨ target (σ j).cpc = true)) :
    ∃ n, target (σ n).cpc = true := by
  rcases cfg_cases c hf with rfl | rfl
  · exact fair_term cT _ _ region target (invT hT) σ τ h0 hd hstep hfair
  · exact fair_term cK _ _ region target (invK hK) σ τ h0 hd hstep hfair

/-- **stop_safety.**  In every reachable state of the fixed code: if stop() has returned and start() has not
    been called since, no body invocation is executing. -/
theorem stop_safety (c : Cfg) (hf : c.fixed = true) (s : State) (hs : Reachable c s) :
    ¬ (s.stopped = true ∧ s.bodyRunning = true) :=
  inv_fixed (P := fun _ s => ¬ (s.stopped = true ∧ s.bodyRunning = true))
    (by decide +kernel) (by decide +kernel) c hf s hs

/-- **stop_safety, entry form.**  While `stopped`, no step of any thread leads into the body: the body does not
    begin executing again until start() is next called. -/
theorem no_body_entry_while_stopped (c : Cfg) (hf : c.fixed = true) (s : State) (hs : Reachable c s)
    (hst : s.stopped = true) : ∀ t ∈ step c s, t.bodyRunning = false :=
  inv_fixed (P := fun c s => s.stopped = true → ∀ t ∈ step c s, t.bodyRunning = false)
    (by decide +kernel) (by decide +kernel) c hf s hs hst

/-- The pinned code (before the fix) violates stop_safety: a concrete 15-step execution reaches a state in
    which stop() has returned and the body is executing (both launch methods). -/
theorem stop_safety_fails_on_original (thread : Bool) :
    ∃ s, Reachable ⟨false, thread⟩ s ∧ s.stopped = true ∧ s.bodyRunning = true := by
  cases thread <;> exact reach_on_path _ witnessOrig (by decide +kernel) (by decide +kernel)

def entersWithin (c : Cfg) : Nat → State → Bool
  | 0, s => s.bodyRunning
  | k + 1, s => s.bodyRunning || (match loopStep c s with | some t => entersWithin c k t | none => false)

/-- The least bound for `no_lost_wakeup` and `body_runs_after_start`: with 9 both fail on either certificate
    list, at the state in which start() has returned just after the loop thread read the flag as false
    (`lpc = .norun`; from there norun, prelock, pred, pdT, wdone, top, alive1, alive2, pub, run, body). -/
def K : Nat := 10

/-- **no_lost_wakeup.**  In every reachable state in which the controller is idle, `shouldBeRunning` is set and
    the loop is alive, the loop thread run alone enters the body within `K = 10` of its own steps, and it is not
    blocked in `wait` (a notify is outstanding whenever it sleeps with the flag set). -/
theorem no_lost_wakeup (c : Cfg) (hf : c.fixed = true) (s : State) (hs : Reachable c s)
    (hidle : s.cpc = .idle) (hrun : s.running = true) (halive : s.alive = true) :
    entersWithin c K s = true ∧ s.lpc ≠ .waiting :=
  inv_fixed (P := fun c s => s.cpc = .idle → s.running = true → s.alive = true →
      entersWithin c K s = true ∧ s.lpc ≠ .waiting)
    (by decide +kernel) (by decide +kernel) c hf s hs hidle hrun halive

theorem started_flags (c : Cfg) (hf : c.fixed = true) (s : State) (hs : Reachable c s) (hst : s.started = true) :
    s.cpc = .idle ∧ s.running = true ∧ s.alive = true :=
  inv_fixed (P := fun _ s => s.started = true → s.cpc = .idle ∧ s.running = true ∧ s.alive = true)
    (by decide +kernel) (by decide +kernel) c hf s hs hst

/-- **body_runs_after_start.**  After start() has returned, and until the next call, the loop thread run alone
    enters the body within `K` of its own steps. -/
theorem body_runs_after_start (c : Cfg) (hf : c.fixed = true) (s : State) (hs : Reachable c s)
    (hst : s.started = true) : entersWithin c K s = true := by
  obtain ⟨h1, h2, h3⟩ := started_flags c hf s hs hst
  exact (no_lost_wakeup c hf s hs h1 h2 h3).1

/-- **destroy_terminates.**  On every weakly fair execution from a reachable state in which the destructor is in
    progress, the destructor returns; both launch methods.  Weak fairness (`hfair`: a thread that stays enabled
    eventually moves) includes "the body returns" and "the mutex is eventually granted"; the steps are those of
    `stepNS`, so there are no further spurious wake-ups. -/
theorem destroy_terminates (c : Cfg) (hf : c.fixed = true) (σ : Nat → State) (τ : Nat → Thread)
    (h0 : Reachable c (σ 0)) (hd : (σ 0).cpc.inDtor = true)
    (hstep : ∀ i, (σ i).cpc.isDead = true ∨ (τ i, σ (i + 1)) ∈ stepNS c (σ i))
    (hfair : ∀ i t, ∃ j, i ≤ j ∧ (τ j = t ∨ enabled c t (σ j) = false ∨ (σ j).cpc.isDead = true)) :
    ∃ n, (σ n).cpc.isDead = true :=
  term_fixed rankDtorFixedThread rankDtorFixedTask CPc.inDtor CPc.isDead (by decide +kernel) (by decide +kernel)
    c hf σ τ h0 hd hstep hfair

/-- stop() returns under the same fairness assumption: its spin on `insideLoopBody` terminates (also with the
    repaired publication order).  `cpc.isIdle = true` is `cpc = .idle`, as `no_lost_wakeup` writes it. -/
theorem stop_terminates (c : Cfg) (hf : c.fixed = true) (σ : Nat → State) (τ : Nat → Thread)
    (h0 : Reachable c (σ 0)) (hd : (σ 0).cpc.inStop = true)
    (hstep : ∀ i, (σ i).cpc.isIdle = true ∨ (τ i, σ (i + 1)) ∈ stepNS c (σ i))
    (hfair : ∀ i t, ∃ j, i ≤ j ∧ (τ j = t ∨ enabled c t (σ j) = false ∨ (σ j).cpc.isIdle = true)) :
    ∃ n, (σ n).cpc.isIdle = true :=
  term_fixed rankStopFixedThread rankStopFixedTask CPc.inStop CPc.isIdle (by decide +kernel) (by decide +kernel)
    c hf σ τ h0 hd hstep hfair

/-- start() returns under the same fairness assumption. -/
theorem start_terminates (c : Cfg) (hf : c.fixed = true) (σ : Nat → State) (τ : Nat → Thread)
    (h0 : Reachable c (σ 0)) (hd : (σ 0).cpc.inStart = true)
    (hstep : ∀ i, (σ i).cpc.isIdle = true ∨ (τ i, σ (i + 1)) ∈ stepNS c (σ i))
    (hfair : ∀ i t, ∃ j, i ≤ j ∧ (τ j = t ∨ enabled c t (σ j) = false ∨ (σ j).cpc.isIdle = true)) :
    ∃ n, (σ n).cpc.isIdle = true :=
  term_fixed rankStartFixedThread rankStartFixedTask CPc.inStart CPc.isIdle (by decide +kernel) (by decide +kernel)
    c hf σ τ h0 hd hstep hfair

/-- **destroy, THREAD launch.**  Once the destructor has returned the loop thread has exited: no body invocation
    is running …  (`s.destroyed` is `s.cpc == .dead`, what `destroy_terminates` writes `cpc.isDead`.) -/
theorem destroyed_thread_exited (s : State) (hs : Reachable cT s) (hd : s.destroyed = true) :
    s.lpc = .exited ∧ s.bodyRunning = false :=
  invT (P := fun s => s.destroyed = true → s.lpc = .exited ∧ s.bodyRunning = false) (by decide +kernel) s hs hd

/-- … and none begins afterwards (no step of any thread leads into the body; in fact no step exists). -/
theorem destroyed_thread_no_later_entry (s : State) (hs : Reachable cT s) (hd : s.destroyed = true) :
    ∀ t ∈ step cT s, t.bodyRunning = false := by
  rw [step_eq_nil_of_dead (eq_of_beq hd) (destroyed_thread_exited s hs hd).1]
  exact fun _ h => nomatch h

/-! ## Non-vacuity: the hypotheses above are satisfiable (explicit executions of the fixed model) -/

example : ∃ s, Reachable cT s ∧ s.stopped = true ∧ s.cpc = .idle ∧ s.lpc = .waiting :=
  reach_on_path cT pathStoppedBodyDone (by decide +kernel) (by decide +kernel)

example : ∃ s, Reachable cT s ∧ s.started = true ∧ s.bodyRunning = true :=
  reach_on_path cT pathStartedBody (by decide +kernel) (by decide +kernel)

/-- start() can return while the loop thread is still asleep but notified (so no_lost_wakeup is not trivial) -/
example : ∃ s, Reachable cT s ∧ s.started = true ∧ s.lpc = .woken :=
  reach_on_path cT pathRestart (by decide +kernel) (by decide +kernel)

example : ∃ s, Reachable cT s ∧ s.destroyed = true :=
  reach_on_path cT pathDeadThread (by decide +kernel) (by decide +kernel)

/-- TASK launch: the destructor may return while a body invocation is still running (the property only
    requires quiescence when the loop owns its thread) — so `destroyed_thread_exited` is specific to THREAD. -/
example : ∃ s, Reachable cK s ∧ s.destroyed = true ∧ s.bodyRunning = true :=
  reach_on_path cK pathDeadTaskBody (by decide +kernel) (by decide +kernel)

example : ∃ s, Reachable cT s ∧ s.cpc.inDtor = true :=
  reach_on_path cT [⟨.top,.d0,true,false,false,.free,false,false⟩] (by decide +kernel) (by decide +kernel)

end RkVerif.C03
