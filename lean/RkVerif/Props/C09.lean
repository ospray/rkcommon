/-
Property C09 — Optional and Any behave as value types for every payload type and history.
Property theorems only: every theorem declared in this module is an audited proof obligation (model:
Model/C09.lean; what the proofs rest on: Lemmas/C09.lean, Lemmas/C09Any.lean).

The model follows the source with fixes/C09-*.patch applied.  The member functions as they were
before the repairs are the `_prefix` definitions of the model; the `example`s at the end of each
part (Optional, alignment, Any) show, by evaluation, that they violate the invariants proved here.
-/
import RkVerif.Lemmas.C09
import RkVerif.Lemmas.C09Any

namespace RkVerif.C09

/-- what wrapper `i` holds in an abstract state (`none` = no object or empty) -/
def held (r : Ref) (i : Nat) : Option Val := (r i).bind id

/-- optional_refines: after *every* history over any number of wrappers, what each wrapper holds
    (no object / empty / engaged with value v) is what the `std::optional`-style reference
    semantics `Ref.step` gives for the same history. -/
theorem optional_refines (hist : List Op) : abs (runR hist) = Ref.runR hist := by
  induction hist with
  | nil => funext k; simp [abs, runR, Ref.runR]
  | cons op earlier ih => simp only [runR, Ref.runR, (step_spec op (inv_runR earlier)).2, ih]

/-- `has_value()` / `operator bool` is true exactly when the reference state holds a value. -/
theorem optional_has_value (hist : List Op) (i : Nat) :
    obsHas (runR hist) i = (held (Ref.runR hist) i).isSome := by
  rw [← optional_refines]; exact hasV_abs

/-- `value()`, `operator*`, `operator->` return the held value and never read raw storage. -/
theorem optional_value (hist : List Op) (i : Nat) (x : Val)
    (h : held (Ref.runR hist) i = some x) : obsValue (runR hist) i = some x := by
  rw [← optional_refines] at h
  exact (obsValue_abs ((inv_runR hist).2 i)).trans h

/-- `value_or(d)` returns the held value, or `d` for an empty wrapper; never reads raw storage. -/
theorem optional_value_or (hist : List Op) (i : Nat) (d : Val) (hp : present (runR hist) i = true) :
    obsValueOr (runR hist) i d = some ((held (Ref.runR hist) i).getD d) := by
  rw [← optional_refines, obsValueOr, hasV_abs, obsValue_abs ((inv_runR hist).2 i), held]
  cases (abs (runR hist) i).bind id <;> rfl

/-- reference meaning of the six comparison operators on two `Option`s
    (rkcommon: any comparison with an empty operand is false, `!=` is the negation of `==`) -/
def refCmp (r : Rel) (a b : Option Val) : CmpRes :=
  match a, b with
  | some (.v x), some (.v y) => .b (r.eval x y)
  | some _, some _ => .unspecified
  | _, _ => .b (r = .ne)

/-- Comparisons never dereference raw storage and compute `refCmp` of the held values. -/
theorem optional_cmp (hist : List Op) (r : Rel) (i j : Nat) :
    obsCmp (runR hist) r i j = some (refCmp r (held (Ref.runR hist) i) (held (Ref.runR hist) j)) := by
  have hw := (inv_runR hist).2
  rw [← optional_refines, obsCmp, hasV_abs, hasV_abs, obsValue_abs (hw i), obsValue_abs (hw j)]
  simp only [held]
  -- only `!=` is evaluated in a special way (as the negation of `==`)
  by_cases hr : r = .ne
  · subst hr
    rcases (abs (runR hist) i).bind id with _ | _ | _ <;> rcases (abs (runR hist) j).bind id with _ | _ | _ <;>
      simp [refCmp, Rel.eval, bne]
  · rcases (abs (runR hist) i).bind id with _ | _ | _ <;> rcases (abs (runR hist) j).bind id with _ | _ | _ <;>
      simp [refCmp, hr]

/-- optional_frame (copies are independent): in every reachable state an operation changes only
    its target — and the source of a *move*; in particular the source of a copy construction or
    copy assignment and every third wrapper keep exactly what they held. -/
theorem optional_frame (hist : List Op) (op : Op) (k : Nat) (hk : k ∉ op.writes) :
    abs (step (runR hist) op) k = abs (runR hist) k :=
  step_frame (inv_runR hist) op k hk

/-- A copy and its source are independent: after `a_i = a_j`, overwriting or resetting the copy
    leaves the source as it was before the copy. -/
theorem optional_copy_independent (hist : List Op) (i j : Nat) (hij : i ≠ j) (op : Op)
    (hop : op.writes = [i]) :
    abs (step (step (runR hist) (.copyAssign i j)) op) j = abs (runR hist) j := by
  have h1 := optional_frame (.copyAssign i j :: hist) op j (by simp [hop]; exact fun h => hij h.symm)
  have h2 := optional_frame hist (.copyAssign i j) j (by simp [Op.writes]; exact fun h => hij h.symm)
  simpa [runR] using h1.trans h2

/-- optional_lifetime (safety half): in every history no payload is assigned, read, moved from or
    destroyed in storage that holds no object, no payload is constructed over a live one, and no
    wrapper object dies with a live payload inside (the model records each of these as an error);
    and every wrapper stays well formed (`OptOk`: flag and counters agree with the storage). -/
theorem optional_no_lifetime_error (hist : List Op) :
    (runR hist).errs = [] ∧ ∀ i, OptOk (runR hist) i := inv_runR hist

/-- optional_lifetime: every constructed payload is destroyed exactly once.  Once the wrappers a
    history used are destroyed, every slot has seen as many destructions as constructions; with
    `optional_no_lifetime_error` (a destructor only ever runs on a live payload, a constructor only
    on raw storage) that is the claim. -/
theorem optional_lifetime (hist : List Op) :
    let σ := destroyAll (runR hist) (touched hist)
    σ.errs = [] ∧ ∀ i, σ.w i = none ∧ σ.born i = σ.died i := by
  intro σ
  obtain ⟨hinv, e⟩ := destroyAll_spec (touched hist) (inv_runR hist)
  refine ⟨hinv.1, fun i => ?_⟩
  have hn : abs σ i = none := by
    rw [show abs σ = _ from e]
    by_cases hi : i ∈ touched hist
    · exact if_pos hi
    · exact (if_neg hi).trans (untouched_absent hist i hi)
  replace hn : σ.w i = none := by simpa [abs] using hn
  have := hinv.2 i
  rw [OptOk, hn] at this
  exact ⟨hn, this⟩

/-! ### Non-vacuity and the pre-repair code (Optional) -/

-- a history with engaged, empty, moved-from and destroyed wrappers
example : Ref.runR [.moveAssign 2 1, .ctorDefault 2, .copyAssign 1 0, .ctorDefault 1, .ctorValue 0 3] 2 = some (some (.v 3)) := by decide
example : Ref.runR [.moveAssign 2 1, .ctorDefault 2, .copyAssign 1 0, .ctorDefault 1, .ctorValue 0 3] 1 = some (some .unspec) := by decide
example : held (Ref.runR [.copyAssign 0 1, .ctorDefault 1, .ctorValue 0 3]) 0 = none := by decide
example : (destroyAll (runR [.copyAssign 1 0, .ctorDefault 1, .ctorValue 0 3]) [0, 1]).born 1 = 1 := by decide

-- before fixes/C09-optional-assign-from-empty.patch: `b = a` with `a` empty reads a payload that
-- does not exist and leaves `b` engaged although the last operation gave it nothing
example : (runR_prefix [.copyAssign 1 0, .ctorValue 1 2, .ctorDefault 0]).errs = [.readRaw] := by decide
example : obsHas (runR_prefix [.copyAssign 1 0, .ctorValue 1 2, .ctorDefault 0]) 1 = true
    ∧ held (Ref.runR [.copyAssign 1 0, .ctorValue 1 2, .ctorDefault 0]) 1 = none := by decide
example : (runR_prefix [.moveAssign 1 0, .ctorDefault 1, .ctorDefault 0]).errs = [.readRaw] := by decide
-- the converting move assignment `operator=(Optional<U>&&)` had the same body
example : (runR_prefix [.convMoveAssign 1 0, .ctorDefault 1, .ctorDefault 0]).errs ≠ [] := by decide
-- before fixes/C09-optional-move-ctor-construct.patch: the move constructor assigns to raw storage
example : (runR_prefix [.ctorMove 1 0, .ctorValue 0 2]).errs = [.assignRaw] := by decide
-- the repaired code on the same histories
example : (runR [.copyAssign 1 0, .ctorValue 1 2, .ctorDefault 0]).errs = [] ∧
    (runR [.ctorMove 1 0, .ctorValue 0 2]).errs = [] := by decide

/-- optional_aligned: in every struct with an `Optional<T>` member (any `T`, any members `before`
    and `after` it) that is placed at an address aligned for the struct, the payload storage of
    the Optional lies at a multiple of `alignof(T)`; and `alignof(Optional<T>)` is a multiple of
    `alignof(T)`. -/
theorem optional_aligned (t : Field) (before after : List Field) (base : Nat)
    (hbase : 2 ^ structAlignExp (before ++ structField (optionalFields t) :: after) ∣ base) :
    storageAddr base before (optionalFields t) % t.align = 0 ∧
    (structField (optionalFields t)).align % t.align = 0 := by
  have halign : (structField (optionalFields t)).align = t.align := by
    simp [Field.align, structField, optionalFields, structAlignExp]
  have h3 : storageOffset (optionalFields t) = 0 := by
    have hpos : 0 < 2 ^ t.alignExp := Nat.two_pow_pos _
    simp only [storageOffset, optionalFields, roundUp, Field.align, Nat.zero_add]
    rw [Nat.div_eq_of_lt (by omega)]; simp
  refine ⟨Nat.mod_eq_zero_of_dvd ?_, ?_⟩
  · simp only [storageAddr, h3, Nat.add_zero]
    exact halign ▸ member_aligned before after _ base hbase
  · rw [halign]; exact Nat.mod_self _

-- the hypothesis is satisfiable and the conclusion is not trivial: struct { char c; Optional<double> o; } at 0x1000
example : 2 ^ structAlignExp ([⟨1, 0⟩] ++ structField (optionalFields ⟨8, 3⟩) :: []) ∣ 4096 := by decide
example : storageAddr 4096 [⟨1, 0⟩] (optionalFields ⟨8, 3⟩) = 4104 := by decide
-- before fixes/C09-optional-storage-alignment.patch the same struct puts the double at an odd address
example : storageAddr 4096 [⟨1, 0⟩] (optionalFields_prefix ⟨8, 3⟩) % (Field.align ⟨8, 3⟩) = 1 := by decide
example : 2 ^ structAlignExp ([⟨1, 0⟩] ++ structField (optionalFields_prefix ⟨8, 3⟩) :: []) ∣ 4096 := by decide

/-- any_refines: after every history over any number of Any objects, what each object holds is
    what the value-level reference semantics gives (assignment and copy construction copy the
    value, mutation through `get<T>()` changes only the object it is applied to) … -/
theorem any_refines (hist : List AOp) : absA (arunR hist) = ARef.runR hist := by
  induction hist with
  | nil => funext k; simp [absA, arunR, ARef.runR]
  | cons op earlier ih => simp only [arunR, ARef.runR, (astep_spec op (ainv_runR earlier)).2, ih]

/-- … and the holders are owned one-to-one: no lifetime error is recorded (no use after free, no
    double free), no two Any objects ever share a holder (copies are independent), and every
    allocated holder is owned by an Any (nothing leaks). -/
theorem any_ownership (hist : List AOp) :
    (arunR hist).errs = [] ∧
    (∀ i j h, (arunR hist).a i = some (some h) → (arunR hist).a j = some (some h) → i = j) ∧
    (∀ h, ((arunR hist).heap h).isSome = true → ∃ i, (arunR hist).a i = some (some h)) :=
  let inv := ainv_runR hist
  ⟨inv.noerr, inv.inj, inv.owned⟩

/-- Once every Any object is destroyed, every holder has been freed. -/
theorem any_no_leak (hist : List AOp) (h : ∀ i, (arunR hist).a i = none) (hd : Nat) :
    (arunR hist).heap hd = none :=
  Option.not_isSome_iff_eq_none.mp fun e => by
    obtain ⟨i, hi⟩ := (ainv_runR hist).owned hd e
    simp [h i] at hi

/-- any_typed_get: `get<T>()` returns the stored value exactly when the stored type is `T`,
    throws otherwise (other type, empty Any, no object), and never touches a missing holder. -/
theorem any_typed_get (hist : List AOp) (i : Nat) (t : Tag) :
    (∀ x, anyGet (arunR hist) i t = .ok x ↔ ARef.runR hist i = some (some (t, x))) ∧
    (anyGet (arunR hist) i t = .throws ↔ ¬ ∃ x, ARef.runR hist i = some (some (t, x))) ∧
    anyGet (arunR hist) i t ≠ .crash := by
  rw [← any_refines]
  rcases any_shapes (ainv_runR hist) i with h1 | h1 | ⟨hd, c, h1, hc, _⟩
  · simp [anyGet, absA, h1]
  · simp [anyGet, absA, h1]
  · obtain ⟨t', v⟩ := c
    by_cases ht : t' = t <;> simp [anyGet, absA, h1, hc, ht]

/-- `is<T>()` and `valid()` say what the reference state says. -/
theorem any_is_valid (hist : List AOp) (i : Nat) (t : Tag) :
    (anyIs (arunR hist) i t = true ↔ ∃ x, ARef.runR hist i = some (some (t, x))) ∧
    (anyValid (arunR hist) i = true ↔ ∃ c, ARef.runR hist i = some (some c)) := by
  rw [← any_refines]
  rcases any_shapes (ainv_runR hist) i with h1 | h1 | ⟨hd, c, h1, hc, _⟩
  · simp [anyIs, anyValid, absA, h1]
  · simp [anyIs, anyValid, absA, h1]
  · obtain ⟨t', v⟩ := c
    by_cases ht : t' = t <;> simp [anyIs, anyValid, absA, h1, hc, ht]

/-- reference meaning of `a == b` for two Any objects (rkcommon: an empty Any equals only an empty
    one; a type without `operator==` never compares equal, not even to itself) -/
def refAnyEq (a b : Option (Tag × Nat)) : Bool :=
  match a with
  | none => b.isNone
  | some c => isSame c b

/-- any_total: in every history, comparing two Any objects and printing one — engaged or empty —
    never dereference a null or dangling holder, and they compute the reference results. -/
theorem any_total (hist : List AOp) (i j : Nat) (a b : Option (Tag × Nat))
    (hi : ARef.runR hist i = some a) (hj : ARef.runR hist j = some b) :
    anyEq (arunR hist) i j = some (refAnyEq a b) ∧
    anyToString (arunR hist) i = some (a.map Prod.fst) := by
  rw [← any_refines] at hi hj
  rw [anyEq_abs (ainv_runR hist), anyToString_abs (ainv_runR hist), hi, hj]
  cases a <;> exact ⟨rfl, rfl⟩

/-- comparing or printing never hits the error value, whatever objects exist -/
theorem any_total' (hist : List AOp) (i j : Nat) :
    (anyEq (arunR hist) i j).isSome = true ∧ (anyToString (arunR hist) i).isSome = true := by
  rw [anyEq_abs (ainv_runR hist), anyToString_abs (ainv_runR hist)]
  exact ⟨rfl, rfl⟩

/-! ### Non-vacuity and the pre-repair code (Any) -/

example : ARef.runR [.mutate 1 .int 5, .ctorCopy 1 0, .ctorValue 0 .int 2] 0 = some (some (.int, 2)) := by decide
example : ARef.runR [.mutate 1 .int 5, .ctorCopy 1 0, .ctorValue 0 .int 2] 1 = some (some (.int, 5)) := by decide
example : anyGet (arunR [.ctorValue 0 .int 2]) 0 .float = .throws ∧ anyGet (arunR [.ctorValue 0 .int 2]) 0 .int = .ok 2 := by decide
example : ∀ i, (arunR [.dtor 0, .dtor 1, .assign 1 0, .ctorValue 1 .trk 1, .ctorValue 0 .int 2]).a i = none := by
  intro i; by_cases h0 : i = 0 <;> by_cases h1 : i = 1 <;> simp [arunR, astep, adtor, aclear, apresent, free, alloc, clone, upd, h0, h1]
-- before fixes/C09-any-empty-equals.patch: `Any() == Any(1)` dereferences the null holder
example : anyEq_prefix (arunR [.ctorValue 1 .int 1, .ctorDefault 0]) 0 1 = none := by decide
example : anyEq (arunR [.ctorValue 1 .int 1, .ctorDefault 0]) 0 1 = some false := by decide
-- before fixes/C09-any-empty-tostring.patch: `Any().toString()` dereferences the null holder
example : anyToString_prefix (arunR [.ctorDefault 0]) 0 = none := by decide
example : anyToString (arunR [.ctorDefault 0]) 0 = some none := by decide

end RkVerif.C09
