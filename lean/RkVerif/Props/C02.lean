/-
Property C02 — scheduled and async tasks run exactly once and deliver their result safely.
Every theorem declared in this module is an audited proof obligation.

TBB task_group / task_arena, OpenMP, std::thread, std::packaged_task / std::future are contracts
(observed by the harness, not proved); "eventually" = no stuck state + a strictly decreasing measure,
i.e. it assumes a fair scheduler.
-/
import RkVerif.Lemmas.C02
import RkVerif.Gen.C02Table

namespace RkVerif.C02

/-! ## The shape read from the source is the one the theorems are about -/

/-- AsyncTask.h as it is in the tree: result and flag are constructed before the member that starts the task,
    the task assigns the result before it sets the flag, the destructor waits, get() waits unless finished. -/
theorem source_table_wf : Gen.table.wf = true := by decide

/-- TaskSys.h/.cpp as they are in the tree: the task does not delete itself, the owner list records it after it
    has been added and deletes it only once complete. -/
theorem source_sched_wf (w : Nat) : (Gen.schedCfg w).wfMem = true := by
  simp [Gen.schedCfg, SCfg.wfMem]

/-- … and a scheduler without worker threads runs the task on the calling thread. -/
theorem source_sched_live (w : Nat) : (Gen.schedCfg w).wfLive = true := by
  simp [Gen.schedCfg, SCfg.wfLive]

/-- **asynctask_safe.**  For every class table of the well-formed shape and every interleaving of the task's steps
    with construction, finished(), get(), wait() and destruction: no payload operation on unconstructed storage and
    no access to the object after its destructor returned; `jobFinished` is set only once `retValue` holds the value
    `fcn()` returned, which is not written again; finished() is never true before that and every get() returns that
    value; the destructor returns only after the task has completed. -/
theorem asynctask_safe (t : Table) (hwf : t.wf = true) (s : ASt) (hs : Reach (aNext t) (aInit t) s) :
    s.err = false ∧ s.lateWrite = false ∧ s.badGet = false ∧ s.finishedLied = false ∧
    (s.fin = true → s.ret = .res) ∧
    (s.ctl = .gone → s.completed = true ∧ aNext t s .task = none) := by
  have h := ainv_reach hwf hs
  refine ⟨h.err, h.late, h.bad, h.lied, fun hf => Slot.isRes_iff.mp (h.isRes_of_fin hf), fun hg => ?_⟩
  have hc := h.ctl
  simp only [CtlInv, hg] at hc
  exact ⟨hc, by simp [aNext, hc]⟩

theorem asynctask_safe_source (s : ASt) (hs : Reach (aNext Gen.table) (aInit Gen.table) s) :
    s.err = false ∧ s.lateWrite = false ∧ s.badGet = false ∧ s.finishedLied = false ∧
    (s.fin = true → s.ret = .res) ∧
    (s.ctl = .gone → s.completed = true ∧ aNext Gen.table s .task = none) :=
  asynctask_safe Gen.table source_table_wf s hs

/-- finished() == true ⇒ get() does not block, for a get() that tests the flag before it waits (`hk`; one that always
    waits can block until the backend is done with the task): a get() that starts when the flag is set goes straight
    to `return retValue` and returns the value of `fcn()`. -/
theorem asynctask_finished_get_nonblocking (t : Table) (hwf : t.wf = true) (hk : t.getKind = .checkThenWait)
    (s : ASt) (hs : Reach (aNext t) (aInit t) s) (hi : s.ctl = .idle) (hf : s.fin = true) :
    ∃ s1 s2, aNext t s .callGet = some s1 ∧ s1.ctl = .getRead ∧ aNext t s1 .ctl = some s2 ∧
      s2.ctl = .idle ∧ s2.badGet = false := by
  have h := ainv_reach hwf hs
  refine ⟨{ s with ctl := .getRead }, _, ?_, rfl, rfl, rfl, ?_⟩
  · simp [aNext, hi, getEntry, hk, hf]
  · simp [h.bad, h.isRes_of_fin hf]

/-- wait(), get() and the destructor cannot deadlock: while the controller is inside wait(), either wait() can
    return or the task can take a step.  (Not in the statement: the task has at most |taskProg| + 1 steps, `trest`
    only shrinks and `completed` ends them.) -/
theorem asynctask_wait_progress (t : Table) (hwf : t.wf = true) (s : ASt) (hs : Reach (aNext t) (aInit t) s)
    (hw : s.ctl = .getWait ∨ s.ctl = .inWait ∨ s.ctl = .dtorWait) :
    (aNext t s .ctl).isSome = true ∨ (aNext t s .task).isSome = true := by
  have hc := (ainv_reach hwf hs).ctl
  cases hcomp : s.completed
  · right
    have hst : s.started = true := by
      rcases hw with hw | hw | hw <;> simpa [CtlInv, hw] using hc
    simp only [aNext, hst, hcomp]
    cases s.trest <;> simp
  · left
    rcases hw with hw | hw | hw <;> simp [aNext, hw, hcomp]

/-! `Table.pinned` and `SCfg.pinned` are the shapes of the commit of rkcommon this development was started against, before
the repairs under fixes/ (`Table.reference`, `SCfg.reference`: after them; the tree is checked to have that shape). -/

/-- The pinned declaration order (jobFinished, taskImpl, retValue): the task, started by the constructor of
    `taskImpl`, assigns `retValue` before it is constructed (payload operation on raw storage), its construction
    then overwrites the result, and get() returns the default value — this is the Debug backend's schedule. -/
theorem asynctask_pinned_unsafe :
    ∃ s, Reach (aNext Table.pinned) (aInit Table.pinned) s ∧ s.err = true ∧ s.badGet = true ∧ s.ret = .dflt :=
  -- most recent action first: ctor F, ctor T, task ×3 (assign, flag, complete), ctor R, ctor end, get (fin ⇒ read)
  exists_reach_of_runActs [.ctl, .callGet, .ctl, .ctl, .task, .task, .task, .ctl, .ctl] (by decide)

example : Table.pinned.wf = false := by decide
example : Table.reference.wf = true := by decide
example : Gen.table = Table.reference := by decide

/-- A destructor that does not wait: the task touches the object after it has been released. -/
theorem asynctask_dtor_must_wait :
    ∃ s, Reach (aNext { Table.reference with dtorWaits := false }) (aInit { Table.reference with dtorWaits := false }) s ∧
      s.err = true :=
  exists_reach_of_runActs [.task, .ctl, .callDtor, .ctl, .ctl, .ctl, .ctl] (by decide)

/-- A task that sets the flag before it assigns the result: finished() returns true too early. -/
theorem asynctask_flag_must_follow_result :
    ∃ s, Reach (aNext { Table.reference with taskProg := [.setFinished, .assignRet] })
        (aInit { Table.reference with taskProg := [.setFinished, .assignRet] }) s ∧
      s.finishedLied = true ∧ s.badGet = true :=
  exists_reach_of_runActs [.ctl, .callGet, .callFinished, .task, .ctl, .ctl, .ctl, .ctl] (by decide)

/-- **schedule_no_uaf.**  For every life cycle of the repaired shape, any number of scheduled closures, any number
    of workers and every interleaving: no step reads or writes a task allocation that has been released. -/
theorem schedule_no_uaf (c : SCfg) (hwf : c.wfMem = true) (s : SSt) (hs : Reach (sNext c) sInit s) :
    s.uaf = false :=
  (sinv_reach hwf hs).uaf

theorem schedule_no_uaf_source (w : Nat) (s : SSt) (hs : Reach (sNext (Gen.schedCfg w)) sInit s) : s.uaf = false :=
  schedule_no_uaf _ (source_sched_wf w) s hs

/-- The pinned life cycle (`delete this` inside ExecuteRange): the scheduler's decrement of m_RunningCount hits the
    released allocation — one closure, one worker, five steps. -/
theorem schedule_pinned_uaf : ∃ s, Reach (sNext (SCfg.pinned 1)) sInit s ∧ s.uaf = true :=
  exists_reach_of_runActs [.dec 0, .run 0, .popW 0, .add 0 false, .sched] (by decide)

/-- … also on the pipe-full path, where the calling thread executes the task inside AddTaskSetToPipe. -/
theorem schedule_pinned_uaf_inline : ∃ s, Reach (sNext (SCfg.pinned 0)) sInit s ∧ s.uaf = true :=
  exists_reach_of_runActs [.dec 0, .run 0, .add 0 true, .sched] (by decide)

/-- An owner that deleted without checking GetIsComplete() would be wrong too: it releases a task that is still
    queued, and the worker's pop touches it. -/
theorem schedule_reap_must_be_guarded :
    ∃ s, Reach (sNext { SCfg.reference 1 with reapGuarded := false }) sInit s ∧ s.uaf = true :=
  exists_reach_of_runActs [.popW 0, .reap 0, .record 0, .add 0 false, .sched] (by decide)

/-- So would an owner that recorded the task before adding it: the sweep releases it (its count is still 0), and
    AddTaskSetToPipe touches it. -/
theorem schedule_record_must_follow_add :
    ∃ s, Reach (sNext { SCfg.reference 1 with recordAfterAdd := false }) sInit s ∧ s.uaf = true :=
  exists_reach_of_runActs [.add 0 false, .reap 0, .sched] (by decide)

example (w : Nat) : (SCfg.reference w).wfMem = true := rfl
example (w : Nat) : (SCfg.pinned w).wfMem = false := rfl
example (w : Nat) : Gen.schedCfg w = SCfg.reference w := rfl

/-- **schedule_once (safety part).**  In every reachable state every scheduled closure has run at most once, and
    exactly once as soon as the scheduler has finished with its task. -/
theorem schedule_once (c : SCfg) (hwf : c.wfMem = true) (s : SSt) (hs : Reach (sNext c) sInit s)
    (t : Task) (ht : t ∈ s.tasks) : t.runs ≤ 1 ∧ (t.phase = .done → t.runs = 1) := by
  have hr := ((sinv_reach hwf hs).tasks t ht).runs
  constructor
  · rw [hr]; split <;> omega
  · intro hd; rw [hr]; simp [hd]

/-- **schedule_enabled.**  No stuck state: in every reachable state in which some closure has not completed its life
    cycle, an internal step (add, pop, run, decrement, …) is enabled, provided the scheduler has a worker thread or
    runs tasks on the calling thread when it has none. -/
theorem schedule_enabled (c : SCfg) (hwf : c.wfMem = true) (hl : c.wfLive = true) (s : SSt)
    (hs : Reach (sNext c) sInit s) (t : Task) (ht : t ∈ s.tasks) (hnd : t.phase ≠ .done) :
    ∃ a : SAct, a.internal = true ∧ (sNext c s a).isSome = true :=
  not_stuck hl (sinv_reach hwf hs) ht hnd

/-- the literal form: a queued task and an idle worker ⇒ that worker's pop is enabled -/
theorem schedule_pop_enabled (c : SCfg) (s : SSt) (i : Nat) (t : Task) (hi : s.tasks[i]? = some t)
    (hq : t.phase = .queued) (hidle : busyW s < c.workers) : (sNext c s (.popW i)).isSome = true := by
  simp only [sNext, hidle, if_true]
  exact onTask_some hi (by simp [hq])

/-- **schedule_terminates.**  Every internal step strictly decreases `total` (for every configuration).  What this is
    for, and is not stated as a theorem: once no more closures are scheduled, an execution has at most `total` further
    internal steps. -/
theorem schedule_terminates (c : SCfg) (s : SSt) (a : SAct) (s' : SSt) (hint : a.internal = true)
    (hn : sNext c s a = some s') : total s'.tasks < total s.tasks := by
  obtain ⟨i, t, t', touches, ht, hstep, rfl⟩ := sNext_internal hint hn
  have := total_set (x := t') ht
  have := hstep.w_lt
  show total (s.tasks.set i t') < total s.tasks
  omega

/-- **schedule_once (complete executions).**  In a reachable state in which no internal step is enabled — the end of
    every complete execution — every scheduled closure has been executed exactly once. -/
theorem schedule_once_complete (c : SCfg) (hwf : c.wfMem = true) (hl : c.wfLive = true) (s : SSt)
    (hs : Reach (sNext c) sInit s) (hq : ∀ a : SAct, a.internal = true → sNext c s a = none)
    (t : Task) (ht : t ∈ s.tasks) : t.phase = .done ∧ t.runs = 1 := by
  have hd : t.phase = .done := Decidable.by_contra fun hd => by
    obtain ⟨a, hi, hsome⟩ := schedule_enabled c hwf hl s hs t ht hd
    rw [hq a hi] at hsome
    cases hsome
  exact ⟨hd, (schedule_once c hwf s hs t ht).2 hd⟩

theorem schedule_once_complete_source (w : Nat) (s : SSt) (hs : Reach (sNext (Gen.schedCfg w)) sInit s)
    (hq : ∀ a : SAct, a.internal = true → sNext (Gen.schedCfg w) s a = none)
    (t : Task) (ht : t ∈ s.tasks) : t.phase = .done ∧ t.runs = 1 :=
  schedule_once_complete _ (source_sched_wf w) (source_sched_live w) s hs hq t ht

/-- The pinned code with a scheduler that has no worker threads (initTaskingSystem(1)): after schedule() has returned
    the closure is queued and *no* internal step is enabled — it only runs if the caller later does something else
    that drives the scheduler (a parallel_for, the shutdown). -/
theorem schedule_pinned_single_thread_stuck :
    ∃ s, Reach (sNext (SCfg.pinned 0)) sInit s ∧ (∃ t ∈ s.tasks, t.phase = .queued ∧ t.runs = 0 ∧ t.cstage = .released) ∧
      ∀ a : SAct, a.internal = true → sNext (SCfg.pinned 0) s a = none := by
  refine ⟨{ tasks := [{ phase := .queued, byCaller := false, cstage := .released, live := true, count := 1,
                        recorded := false, runs := 0 }], uaf := false },
    reach_of_runActs (acts := [.record 0, .add 0 false, .sched]) (by decide),
    ⟨_, List.mem_singleton.mpr rfl, rfl, rfl, rfl⟩, fun a hint => ?_⟩
  cases a with
  | sched => cases hint
  -- there is no worker, and no caller is inside WaitforTask
  | popW i | popC i => rfl
  -- the other actions have a guard, which the one task does not meet
  | add i _ | run i | dec i | waitRet i | record i | reap i => cases i <;> rfl

example : (SCfg.pinned 0).wfLive = false := rfl
example : (SCfg.reference 0).wfLive = true := rfl

/-- **async_delivers.**  The closure of async(), run `n` times: run exactly once it makes the future hold the value the
    function returned, releases the packaged_task, and touches nothing released; a second run would touch the released
    packaged_task.  That the scheduled closure is run exactly once is `schedule_once` for ScheduleM's `Task.runs` (or the
    backend's contract); AsyncM takes `n` as given, no theorem connects the two models. -/
theorem async_delivers (v : Nat) :
    runClosureN v 1 = { live := false, future := some v, err := false } ∧
    (∀ n, (runClosureN v n).err = false ↔ n ≤ 1) ∧
    (∀ n, 1 ≤ n → (runClosureN v n).future = some v ∧ (runClosureN v n).live = false) := by
  have key : ∀ n, runClosureN v (n + 1) = { live := false, future := some v, err := decide (1 ≤ n) } := by
    intro n
    induction n with
    | zero => rfl
    | succ n ih => rw [runClosureN, ih]; simp [runClosure]
  refine ⟨rfl, ?_, ?_⟩
  · intro n
    cases n with
    | zero => simp [runClosureN, pInit]
    | succ n => rw [key]; simp
  · intro n hn
    obtain ⟨m, rfl⟩ : ∃ m, n = m + 1 := ⟨n - 1, by omega⟩
    rw [key]; simp

/-! ## The steps the driver's schedules are made of stay within the reachable states

Proved for `aTry`, `aDrain` (of which `aConstruct` and `aCall` are compositions) and `schedEager`; `aConstruct`,
`aCall` and `quiesce`, which the driver calls, have no theorem of their own. -/

theorem aTry_reach (t : Table) (s : ASt) (a : AAct) (hs : Reach (aNext t) (aInit t) s) :
    Reach (aNext t) (aInit t) (aTry t s a) :=
  hs.getD _ fun _ h => ⟨a, h⟩

theorem aDrain_reach (t : Table) (n : Nat) (s : ASt) (hs : Reach (aNext t) (aInit t) s) :
    Reach (aNext t) (aInit t) (aDrain t s n) := by
  induction n generalizing s with
  | zero => exact hs
  | succ n ih =>
    simp only [aDrain]
    split
    · next s' h => exact ih s' (Reach.step .task hs h)
    · exact hs

theorem schedEager_reach (c : SCfg) (s : SSt) (hs : Reach (sNext c) sInit s) :
    Reach (sNext c) sInit (schedEager c s) :=
  List.foldlRecOn _ _ (Reach.step .sched hs rfl) fun _ h1 _ _ =>
    h1.getD _ fun _ h => let ⟨a, _, ha⟩ := List.exists_of_findSome?_eq_some h; ⟨a, ha⟩

end RkVerif.C02
