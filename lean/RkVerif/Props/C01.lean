/-
C01 — parallel loops run every index exactly once and join before returning.

The property theorems (model: Model/C01.lean; lemmas: Lemmas/C01.lean, C01Live.lean, C01Pipe.lean, C01Blocks.lean;
Gen/C01Table.lean: `stealBound`, the bound of TryRunTask's steal loop as read from the source, for §2b of the model).
Every theorem declared in this module is an audited proof obligation of the check.

PARTIAL: what is proved is about the model of rkcommon's own code (block arithmetic, serial loops,
the Internal backend's chunking, index conversions and the enkiTS task-set path, the pipe's flag
protocol) under sequential consistency.  That tbb::parallel_for and `#pragma omp parallel for`
run each index once and join, and that the effects are visible under the C++ memory model, is
observed by the harness on every run, not proved.
-/
import RkVerif.Lemmas.C01
import RkVerif.Lemmas.C01Pipe
import RkVerif.Lemmas.C01Blocks
import RkVerif.Lemmas.C01Live
import RkVerif.Gen.C01Table
namespace RkVerif.C01

/-- `parallel_in_blocks_of<bs>(nTasks, fcn)`, for every accepted index type, every `nTasks` that type can hold and
    every block size an `int` template argument can be (> 0): no step of the block arithmetic is undefined behaviour
    (the result is `some`), there are no blocks for `nTasks ≤ 0`, and for `nTasks > 0` the blocks handed to `fcn`
    (blockID order) start at 0, are consecutive, non-empty, at most `bs` long, and end at `nTasks`. -/
theorem blocks_partition (name : String) (T : CTy) (hT : (name, T) ∈ indexTypes) (n bs : Int)
    (hn : T.inRange n) (hbs : 0 < bs) (hbs2 : bs ≤ 2 ^ 31 - 1) :
    ∃ L, blocks T n bs = some L ∧ (n ≤ 0 → L = []) ∧ (0 < n → chainFrom bs n 0 L) :=
  blocks_chain hn.2 hbs hbs2

/-- What a chain is worth: its blocks contain every integer of `[a, n)` exactly once and no other (the step from
    `blocks_partition` to `blocks_cover`; nothing here depends on an index type). -/
theorem blocks_partition_math (bs n : Int) (L : List (Int × Int)) (a : Int) (h : chainFrom bs n a L) :
    a ≤ n ∧ ∀ i : Int, (L.filter fun be => decide (be.1 ≤ i ∧ i < be.2)).length = if a ≤ i ∧ i < n then 1 else 0 := by
  induction L generalizing a with
  | nil =>
    cases h
    exact ⟨Int.le_refl _, fun i => (if_neg (by omega)).symm⟩
  | cons be rest ih =>
    obtain ⟨rfl, h1, h2, h3⟩ := h
    obtain ⟨ih1, ih2⟩ := ih _ h3
    refine ⟨by omega, fun i => ?_⟩
    rw [← List.countP_eq_length_filter, List.countP_cons, List.countP_eq_length_filter, ih2 i]
    simp only [decide_eq_true_eq]
    split <;> split <;> split <;> omega

/-- … hence every index of `[0, nTasks)` lies in exactly one block and no other integer lies in any. -/
theorem blocks_cover (name : String) (T : CTy) (hT : (name, T) ∈ indexTypes) (n bs : Int)
    (hn : T.inRange n) (hbs : 0 < bs) (hbs2 : bs ≤ 2 ^ 31 - 1) :
    ∃ L, blocks T n bs = some L ∧
      ∀ i : Int, (L.filter fun be => decide (be.1 ≤ i ∧ i < be.2)).length = if 0 ≤ i ∧ i < n then 1 else 0 := by
  obtain ⟨L, hL, h0, hpos⟩ := blocks_partition name T hT n bs hn hbs hbs2
  refine ⟨L, hL, fun i => ?_⟩
  by_cases hp : 0 < n
  · exact (blocks_partition_math bs n L 0 (hpos hp)).2 i
  · rw [h0 (by omega)]
    have : ¬ (0 ≤ i ∧ i < n) := by omega
    rw [if_neg this]
    rfl

example : blocks u8 255 100 = some [(0, 100), (100, 200), (200, 255)] := by decide
example : blocks i32 2147483647 1073741824 = some [(0, 1073741824), (1073741824, 2147483647)] := by decide
example : blocks i16 (-5) 16 = some [] := by decide

/-- Witnesses on the arithmetic as it was before the fix: `(nTasks + BLOCK_SIZE - 1)` is undefined
    behaviour (signed overflow) for `parallel_in_blocks_of<16>(INT_MAX, …)`, and wraps to 0 blocks
    for an `unsigned` count near the maximum. -/
theorem blocks_orig_overflow :
    numBlocksOrig i32 2147483647 16 = none ∧ numBlocksOrig u32 4294967295 1073741824 = some 0 := by
  decide

/-- The serial loop (Debug backend, `serial_for`, the loop OpenMP is given):
    `for (INDEX_T i = 0; i < nTasks; ++i) fcn(i)` calls `fcn` on 0,…,nTasks-1 in this order, once each,
    and on nothing else – for all 8 index types and every `nTasks` of the type, including negative
    counts and the type's maximum (`++i` never overflows or wraps). -/
theorem serial_exactly_once (name : String) (T : CTy) (hT : (name, T) ∈ indexTypes) (n : Int)
    (hn : T.inRange n) :
    serialLoop T n = some (indexRange n) ∧ (indexRange n).Nodup ∧
      ∀ i : Int, i ∈ indexRange n ↔ 0 ≤ i ∧ i < n := by
  refine ⟨?_, nodup_intsFrom _ _, fun i => ?_⟩
  · have := T.hi_toNat_lt
    have := hn.2
    rw [serialLoop, serialFrom_eq hn.2 _ 0 (Int.le_refl 0) (by omega), Int.sub_zero]
    rfl
  · rw [indexRange, mem_intsFrom]
    omega

example : serialLoop u8 255 = some (indexRange 255) := (serial_exactly_once "u8" u8 (by decide) 255 (by decide)).1
example : serialLoop i16 (-3) = some [] := by decide

/-- After the fix the Internal backend hands `parallel_for_internal` task sets whose sizes are in
    `(0, 2^31-1]` (exactly representable as `int` and as `uint32_t`), `first += chunk` does not wrap,
    and – every set calling its body once per partition index – `fcn` receives
    `INDEX_T(first + i)` = 0,…,nTasks-1, each once: the conversion chain is the identity on the whole
    range of every index type (no set at all for `nTasks ≤ 0`). -/
theorem internal_index_roundtrip (name : String) (T : CTy) (hT : (name, T) ∈ indexTypes) (n : Int)
    (hn : T.inRange n) :
    ∃ sets, internalSets n = some sets ∧ (n ≤ 0 → sets = []) ∧
      (∀ fs ∈ sets, 0 < fs.2 ∧ fs.2 ≤ 2 ^ 31 - 1) ∧ internalCalls T n = some (indexRange n) := by
  have hu : T.hi ≤ u64.hi := (by decide : ∀ nt ∈ indexTypes, nt.2.hi ≤ u64.hi) _ hT
  have hu64 : u64.hi = 2 ^ 64 - 1 := rfl
  unfold internalCalls internalSets
  split
  · next hp =>
    have hn2 := hn.2
    obtain ⟨L, hL, hsz, hflat⟩ := internalSetsFrom_ok hn.2 hu (n.toNat + 1) n.toNat 0 (Int.le_refl 0) (by omega)
      (Nat.lt_succ_self _)
    rw [u64.conv_nonneg (by omega) (by omega), hL]
    exact ⟨L, rfl, fun h => by omega, hsz, congrArg some hflat⟩
  · exact ⟨[], rfl, fun _ => rfl, nofun, by rw [indexRange, show n.toNat = 0 by omega]; rfl⟩

example : internalSets (2 ^ 32 + 5) = some [(0, 2147483647), (2147483647, 2147483647), (4294967294, 7)] := by
  decide

/-- Witnesses on the chain as it was before the fix (`INDEX_T → int → uint32_t`):
    `parallel_for(-1, f)` creates a task set of 2^32-1 indices, `parallel_for(2^32+5, f)` one of 5. -/
theorem internal_orig_truncates : origSetSize (-1) = 4294967295 ∧ origSetSize (2 ^ 32 + 5) = 5 := by
  decide

/-- `parallel_foreach` after the fix (`begin[i]`): element `i` the body receives is the `i`-th element of the range, for
    every storage layout (any number of contiguous chunks of any lengths). -/
theorem foreach_addresses (sz : Nat) (chunks : List Chunk) (i : Nat) :
    iterAt sz chunks i = (rangeAddrs sz chunks)[i]? := by
  induction chunks generalizing i with
  | nil => simp [iterAt, rangeAddrs]
  | cons c cs ih =>
    have ih := ih (i - c.len)
    simp only [iterAt, rangeAddrs, List.flatMap_cons] at ih ⊢
    have hlen : (elemAddrs sz c).length = c.len := by simp [elemAddrs]
    by_cases hi : i < c.len
    · rw [if_pos hi, List.getElem?_append_left (by omega)]
      simp [elemAddrs, hi]
    · rw [if_neg hi, List.getElem?_append_right (by omega), hlen]
      exact ih

/-- Before the fix (`(&*begin)[i]`): right for storage that is one chunk … -/
theorem foreach_addresses_orig_one_chunk (sz : Nat) (c : Chunk) (i : Nat) (hi : i < c.len) :
    ptrAt sz [c] i = (rangeAddrs sz [c])[i]? := by
  have h0 : 0 < c.len := by omega
  simp [ptrAt, iterAt, h0, rangeAddrs, elemAddrs, hi]

/-- … and wrong for a std::deque-like layout (two chunks of 4 elements of 4 bytes that are not adjacent). -/
theorem foreach_addresses_orig_deque_witness :
    ptrAt 4 [⟨1000, 4⟩, ⟨5000, 4⟩] 5 = some 1020 ∧ (rangeAddrs 4 [⟨1000, 4⟩, ⟨5000, 4⟩])[5]? = some 5004 := by
  decide

/-- In every reachable state of the enkiTS task-set path (any number of task sets of any sizes, any partition counts, any
    interleaving, any choice between a successful push and the pipe-full branch, nesting included):
    every index of every set is accounted for exactly once among executed ⊎ queued ⊎ in flight ⊎
    still to be split, no index outside `[0, m_SetSize)` is accounted for at all, and
    m_RunningCount equals the number of partitions queued, in flight, or split off but not yet
    pushed / run. -/
theorem sched_inv (s : State) (h : Reachable s) :
    (∀ t i, cover s t i = if i < s.size t then 1 else 0) ∧ (∀ t, s.count t = (pending s t : Int)) :=
  ⟨(inv_reachable h).cov, (inv_reachable h).cnt⟩

/-- Queued and in-flight partitions and the range of every `SplitAndAddTask` activation stay within `[0, m_SetSize]`,
    so the `uint32_t` arithmetic of SplitTask never wraps when the set size fits 32 bits.  Left out: the piece split
    off and not yet pushed, on which the pipe-full adjustment computes (it ends where the range begins: `Job.Wf`). -/
theorem sched_bounds (s : State) (h : Reachable s) :
    (∀ p ∈ s.queued, p.s ≤ p.e ∧ p.e ≤ s.size p.tid) ∧ (∀ p ∈ s.inflight, p.s ≤ p.e ∧ p.e ≤ s.size p.tid) ∧
    (∀ j ∈ s.jobs, j.s ≤ j.e ∧ j.e ≤ s.size j.tid) :=
  have w := (inv_reachable h).wf
  ⟨fun p hp => ⟨(w.queued p hp).le, (w.queued p hp).le_size⟩, fun p hp => ⟨(w.inflight p hp).le, (w.inflight p hp).le_size⟩,
   fun j hj => ⟨(w.jobs j hj).le, (w.jobs j hj).le_size⟩⟩

/-- The join: whenever `WaitforTask(t)` – entered after `AddTaskSetToPipe(t)` returned – reads
    `m_RunningCount == 0`, the body has been called exactly once for every index of `[0, m_SetSize)` of
    set `t` and for no other index, and no partition of `t` is queued, executing or still to be split. -/
theorem sched_exactly_once (s : State) (h : Reachable s) (t : Nat) (hw : waitMayReturn s t) :
    (∀ i, s.executed.count (t, i) = if i < s.size t then 1 else 0) ∧
    (∀ p ∈ s.queued, p.tid ≠ t) ∧ (∀ p ∈ s.inflight, p.tid ≠ t) ∧ (∀ j ∈ s.jobs, j.tid ≠ t) :=
  inv_wait (inv_reachable h) hw

/-- Every execution the driver replays (`run false init acts`) ends in a reachable state. -/
theorem reachable_of_run (acts : List Act) : ∀ (s s' : State), Reachable s → run false s acts = some s' → Reachable s' := by
  induction acts with
  | nil => intro s s' hr h; simp [run] at h; subst h; exact hr
  | cons a as ih =>
    intro s s' hr h
    simp only [run] at h
    cases hs : step false s a with
    | none => simp [hs] at h
    | some s1 =>
      simp only [hs] at h
      exact ih s1 s' (Reachable.step a hr hs) h

/-- An execution: a set of 13 indices on 3 threads (6 partitions, 2 initial ones), third chunk run through the
    pipe-full branch.  The `example` below runs it: it ends in a state in which the waiter may return
    (non-vacuity of `sched_exactly_once`). -/
def demoActs : List Act :=
  [.add 13 1 6 2, .take 0, .push 0, .take 0, .push 0, .take 0, .inline 0, .exec 0, .finish 0, .jobDone 0,
   .pop 0, .take 0, .push 0, .take 0, .push 0, .jobDone 0, .exec 0, .exec 0, .finish 0,
   .pop 0, .exec 0, .exec 0, .finish 0, .pop 0, .exec 0, .exec 0, .finish 0,
   .pop 0, .take 0, .inline 0, .exec 0, .exec 0, .finish 0, .take 0, .inline 0, .exec 0, .exec 0, .finish 0,
   .jobDone 0, .exec 0, .exec 0, .finish 0]

example : ((run false init demoActs).map fun s => (decide (waitMayReturn s 0), s.size 0, s.executed.length)) =
    some (true, 13, 13) := by decide

/-- `sched_inv` is FALSE of the pipe-full transition as it was before the fix (test
    `m_RangeToRun < rangeToSplit_`): 13 indices, 3 threads (m_RangeToRun = 2, rangeToSplit = 6), the
    pipe full when the clipped last chunk [12,13) is split off – the chunk is extended to [12,14),
    index 13 ≥ m_SetSize is executed and the remaining range becomes [14,13). -/
def origWitness : List Act :=
  [.add 13 1 6 2, .take 0, .push 0, .take 0, .push 0, .take 0, .inline 0, .exec 0, .exec 0]

theorem sched_inv_fails_orig :
    ((run true init origWitness).map fun s => (s.size 0, s.executed, cover s 0 13, s.jobs.map fun j => (j.s, j.e))) =
      some (13, [(0, 13), (0, 12)], 1, [(14, 13)]) := by
  decide

/-- the same actions are not an execution of the fixed transition: after index 12 the partition is done -/
example : run false init origWitness = none := by decide

/-- **No stuck state.**  Whenever a partition is still queued, in flight or being split, some scheduler-internal
    action (take / push / inline / jobDone / pop / exec / finish) is enabled. -/
theorem sched_no_stuck (s : State) (hne : s.jobs ≠ [] ∨ s.queued ≠ [] ∨ s.inflight ≠ []) :
    ∃ a, a.internal = true ∧ (step false s a).isSome = true :=
  progress s hne

/-- **Every internal step makes progress.**  In every state reachable with `m_MinRange ≥ 1`, each internal step
    strictly decreases the lexicographic measure `mu` (weighted outstanding indices, indices still to be split,
    number of activations) – for every set size, partition count, interleaving, pipe-full choice and nesting. -/
theorem sched_step_decreases (s s' : State) (a : Act) (h : ReachableOk s) (hi : a.internal = true)
    (hs : step false s a = some s') : lt3 (mu s') (mu s) :=
  (live_step (inv_reachable (reachable_of_ok h)).wf (linv_reachable h) (Act.ok_of_internal hi) hs).2 hi

/-- **Termination.**  There is no infinite run of internal steps: once no more task sets are handed over, the
    scheduler threads run out of work after finitely many steps. -/
theorem sched_terminates (f : Nat → State) (h0 : ReachableOk (f 0))
    (hstep : ∀ n, ∃ a, a.internal = true ∧ step false (f n) a = some (f (n + 1))) : False := by
  have hr : ∀ n, ReachableOk (f n) := by
    intro n
    induction n with
    | zero => exact h0
    | succ n ih =>
      obtain ⟨a, hi, hs⟩ := hstep n
      exact ReachableOk.step a ih (Act.ok_of_internal hi) hs
  refine (InvImage.wf (fun n => mu (f n)) lt3_wf).induction (C := fun _ => False) 0 fun n ih => ?_
  obtain ⟨a, hi, hs⟩ := hstep n
  exact ih (n + 1) (sched_step_decreases (f n) (f (n + 1)) a (hr n) hi hs)

/-- **The join returns.**  In a reachable state in which no internal action is enabled – which by the two theorems
    above every fair execution reaches once no more sets are added – `WaitforTask(t)` may leave its loop for every
    task set `t` handed over so far (and then, by `sched_exactly_once`, every index of `t` has run exactly once). -/
theorem sched_quiescent_join (s : State) (h : ReachableOk s)
    (hq : ∀ a, a.internal = true → step false s a = none) (t : Nat) (ht : t < s.nsets) : waitMayReturn s t := by
  have hempty : ¬ (s.jobs ≠ [] ∨ s.queued ≠ [] ∨ s.inflight ≠ []) := fun hne => by
    obtain ⟨a, hi, hs⟩ := progress s hne
    rw [hq a hi] at hs
    cases hs
  simp only [not_or, ne_eq, Decidable.not_not] at hempty
  obtain ⟨hj, hqd, hi⟩ := hempty
  have hcnt := (inv_reachable (reachable_of_ok h)).cnt t
  refine ⟨⟨ht, by simp [hj]⟩, ?_⟩
  rw [hcnt]
  simp [pending, hj, hqd, hi, sumBy]

/-- non-vacuity of `ReachableOk`: `init`, and the state after the first action of `demoActs` (its only `add`, with
    `m_MinRange = 1`) -/
example : ReachableOk init := ReachableOk.init
example : ∃ s, step false init (.add 13 1 6 2) = some s ∧ ReachableOk s :=
  ⟨_, rfl, ReachableOk.step (.add 13 1 6 2) ReachableOk.init (by simp [Act.ok]) rfl⟩

theorem exists_steal_offset (n h k : Nat) (hk : k < n) : ∃ c, c < n ∧ (h + c) % n = k := by
  have hr : h % n < n := Nat.mod_lt _ (by omega)
  have hd := Nat.div_add_mod h n
  -- `c` is `k - h` modulo `n`, and `h + (k + (n - h % n))` is `k` plus a multiple of `n`
  refine ⟨(k + (n - h % n)) % n, Nat.mod_lt _ (by omega), ?_⟩
  rw [Nat.add_mod_mod, show h + (k + (n - h % n)) = k + n * (h / n + 1) by rw [Nat.mul_add]; omega,
    Nat.add_mul_mod_self_left, Nat.mod_eq_of_lt hk]

/-- **Every other thread's pipe is probed.**  With the loop bound the source has, one call of `TryRunTask` that
    finds nothing has tried the pipe of every thread `k ≠ threadNum` – for every thread count, every caller and
    every value of the steal hint.  (So a partition queued in any pipe is found by any idle thread: the premise of
    `sched_no_stuck`'s `pop`.) -/
theorem steal_probes_every_pipe (n t h k : Nat) (hk : k < n) (hkt : k ≠ t) :
    k ∈ stealProbes n (Gen.stealBound n) t h := by
  obtain ⟨c, hc, he⟩ := exists_steal_offset n h k hk
  simp only [stealProbes, Gen.stealBound, List.mem_filter, List.mem_map, List.mem_range]
  exact ⟨⟨c, by omega, he⟩, by simpa using hkt⟩

/-- a bound one short misses a pipe (4 threads, caller 3, hint 3: pipe 2 is never tried) -/
example : 2 ∉ stealProbes 4 3 3 3 := by decide

/-- In every reachable state of the pipe's flag protocol (`LockLessMultiReadPipe`; any number of slots and reader threads, any interleaving,
    any choice of slot indices): every written item (ticket) has been claimed by at most one
    successful CAS – and, tickets being fresh per write, not again before the slot is rewritten –,
    only written items are claimed, the value a reader copies out is the item it claimed (the writer
    cannot overwrite a slot that is readable or being read), and two threads never hold the same slot. -/
theorem pipe_handoff (s : PState) (h : PReachable s) :
    s.claimed.Nodup ∧ (∀ c ∈ s.claimed, c < s.next) ∧ (∀ cv ∈ s.out, cv.1 = cv.2 ∧ cv.1 ∈ s.claimed) ∧
    (∀ r r' k, r ≠ r' → (s.rpc r).slot = some k → (s.rpc r').slot ≠ some k) ∧
    (∀ k, s.wpc = some k → ∀ r, (s.rpc r).slot ≠ some k) := by
  have hi := pinv_reachable h
  refine ⟨hi.nodup, hi.old, hi.outOk, hi.excl, fun k hk r hr => ?_⟩
  have h2 := hi.held r k hr
  rw [hi.wr k hk] at h2
  cases h2

/-- non-vacuity: two items written, both claimed by different readers, copied and released; slot 0 reused -/
example : ((prun pinit [.wBuf 0, .wFlag, .wBuf 1, .wFlag, .cas 7 1, .cas 3 0, .cas 5 0, .copy 3, .copy 7, .release 3,
    .wBuf 0, .wFlag, .cas 5 0, .copy 5]).map fun s => (s.claimed, s.out, s.next)) =
    some ([2, 0, 1], [(2, 2), (1, 1), (0, 0)], 3) := by decide

end RkVerif.C01
