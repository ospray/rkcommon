/-
Property C20 — image and trace writers emit decodable files containing exactly the input.
Every theorem declared in this module is an audited proof obligation of the check.
-/
import RkVerif.Lemmas.C20
import RkVerif.Lemmas.C20Trace
-- `trace_wellformed_history` names its hypothesis `hp` and does not use it
set_option linter.unusedVariables false

namespace RkVerif.C20
open Tok

/-! ## Specification table of the six writers (independent of the model's `Fmt` values)

`channels`: which components of an input pixel the file contains, in file order;
`bottomUp`: file row y is input row height-1-y;  `pixelWidth`: components per input pixel
(bytes of a uint32_t pixel for PPM/PGM, floats for the PFM variants). -/

inductive Writer where
  | ppm | pgm | pfmFloat | pfmVec3f | pfmVec3fa | pfmVec4f

def Writer.fmt : Writer → Fmt
  | .ppm => fmtPPM | .pgm => fmtPGM | .pfmFloat => fmtPf | .pfmVec3f => fmtPF3 | .pfmVec3fa => fmtPF3a | .pfmVec4f => fmtPF4

def Writer.channels : Writer → List Nat
  | .ppm => [0, 1, 2] | .pgm => [3] | .pfmFloat => [0] | .pfmVec3f => [0, 1, 2] | .pfmVec3fa => [0, 1, 2] | .pfmVec4f => [0, 1, 2, 3]

def Writer.bottomUp : Writer → Bool
  | .ppm | .pgm => true
  | _ => false

def Writer.pixelWidth : Writer → Nat
  | .ppm | .pgm => 4
  | .pfmFloat => 1 | .pfmVec3f => 3 | .pfmVec3fa => 4 | .pfmVec4f => 4

/-- bytes per sample: 1 for the 8-bit formats, 4 (an opaque 32-bit float pattern) for PFM -/
def Writer.sampleBytes : Writer → Nat
  | .ppm | .pgm => 1
  | _ => 4

/-- "P6" "P5" "Pf" "PF" "PF" "PF4" -/
def Writer.magic : Writer → List UInt8
  | .ppm => [80, 54] | .pgm => [80, 53] | .pfmFloat => [80, 102] | .pfmVec3f => [80, 70] | .pfmVec3fa => [80, 70] | .pfmVec4f => [80, 70, 52]

def Writer.maxval : Writer → Option Nat
  | .ppm | .pgm => some 255
  | _ => none

theorem writer_fmt_mem (w : Writer) : w.fmt ∈ formats := by cases w <;> simp [Writer.fmt, formats]

theorem writer_table (w : Writer) :
    w.fmt.stride = w.pixelWidth ∧ w.fmt.nComp = w.channels.length ∧ w.fmt.flip = w.bottomUp ∧
    w.fmt.magic = w.magic ∧ w.fmt.compBytes = w.sampleBytes ∧
    (if w.fmt.compBytes = 1 then some 255 else none) = w.maxval ∧
    ∀ k, (hk : k < w.channels.length) → compSel w.fmt k = w.channels[k] := by
  cases w <;> refine ⟨rfl, rfl, rfl, rfl, rfl, rfl, ?_⟩ <;> decide

/-- image_in_bounds: for every writer, every width and height, every source index the copy loop
    reads lies inside the width*height pixels (= width*height*pixelWidth components) given. -/
theorem image_in_bounds (w : Writer) (sx sy : Nat) :
    ∀ i ∈ reads w.fmt sx sy, i < sx * sy * w.pixelWidth := by
  rw [← (writer_table w).1]
  exact reads_lt w.fmt (formats_wf _ (writer_fmt_mem w)) sx sy

/-- the same, index by index (row y, column x, output component c) -/
theorem image_in_bounds_pointwise (w : Writer) (sx sy y x c : Nat) (hy : y < sy) (hx : x < sx)
    (hc : c < w.channels.length) : srcIdx w.fmt compSel sx sy y x c < sx * sy * w.pixelWidth := by
  rw [← (writer_table w).1]
  exact srcIdx_lt w.fmt (formats_wf _ (writer_fmt_mem w)) sx sy y x c hy hx (by rw [(writer_table w).2.1]; exact hc)

/-- witness: the pre-fix selection `N_COMP == 1 ? 3 : c` reads outside a 4x3 float image
    (defect C20-pfm-float-index). -/
theorem image_in_bounds_prefix_fails :
    ¬ (∀ i ∈ readsWith compSelOld fmtPf 4 3, i < 4 * 3 * Writer.pfmFloat.pixelWidth) := by decide

example : writeImageOld fmtPf 4 3 (List.range 12) = none := by decide
example : (writeImage fmtPf 4 3 (List.range 12)).isSome = true := by decide
example : reads fmtPGM 2 2 = [11, 15, 3, 7] := by decide
example : reads fmtPPM 1 2 = [4, 5, 6, 0, 1, 2] := by decide

/-- image_roundtrip: for every writer, size and pixel content (components within the sample range),
    the written bytes decode — with a reader that knows only the file format — to the header fields
    of the specification table and to exactly the channels it selects of every pixel, rows bottom-up
    for PPM/PGM and as given for PFM. -/
theorem image_roundtrip (w : Writer) (sx sy : Nat) (comps : List Nat)
    (hlen : comps.length = sx * sy * w.pixelWidth) (hrange : ∀ v ∈ comps, v < 256 ^ w.sampleBytes) :
    ∃ bytes d, writeImage w.fmt sx sy comps = some bytes ∧ decode bytes = some d ∧
      d.magic = w.magic ∧ d.w = sx ∧ d.h = sy ∧ d.nChan = w.channels.length ∧ d.maxval = w.maxval ∧
      d.littleEndian = true ∧ d.samples.length = sx * sy * w.channels.length ∧
      ∀ y x k, y < sy → x < sx → (hk : k < w.channels.length) →
        d.samples[(y * sx + x) * w.channels.length + k]? =
          comps[((if w.bottomUp then sy - 1 - y else y) * sx + x) * w.pixelWidth + w.channels[k]]? := by
  obtain ⟨t1, t2, t3, t4, t5, t6, t7⟩ := writer_table w
  have hw := formats_wf _ (writer_fmt_mem w)
  rw [← t1] at hlen
  rw [← t5] at hrange
  refine ⟨_, _, writeImage_eq w.fmt hw sx sy comps hlen, decode_file w.fmt hw sx sy comps hrange, ?_⟩
  refine ⟨t4, rfl, rfl, t2, t6, rfl, ?_, ?_⟩
  · simp only [length_samples, t2]; ac_rfl
  · intro y x k hy hx hk
    have := samples_getElem? w.fmt hw sx sy comps hlen y x k hy hx (by rw [t2]; exact hk)
    simp only [t2, t1, srcRow, t3, t7 k hk] at this
    exact this

/-- PPM from uint32 pixels: sample (y, x, k), k = 0,1,2, is byte k (little-endian: R, G, B) of
    pixel (height-1-y, x); PGM: the single sample is byte 3 of that pixel. -/
theorem ppm_pgm_roundtrip_words (w : Writer) (h8 : w = .ppm ∨ w = .pgm) (sx sy : Nat) (words : List Nat)
    (hlen : words.length = sx * sy) :
    ∃ bytes d, writeImage w.fmt sx sy (bytesOfWords words) = some bytes ∧ decode bytes = some d ∧
      d.w = sx ∧ d.h = sy ∧ d.maxval = some 255 ∧ d.samples.length = sx * sy * w.channels.length ∧
      ∀ y x k, y < sy → x < sx → (hk : k < w.channels.length) →
        d.samples[(y * sx + x) * w.channels.length + k]? =
          (words[(sy - 1 - y) * sx + x]?).map fun v => v / 256 ^ w.channels[k] % 256 := by
  have ⟨hpw, hsb, hbu, hmv, hch⟩ : w.pixelWidth = 4 ∧ w.sampleBytes = 1 ∧ w.bottomUp = true ∧ w.maxval = some 255 ∧
      ∀ k, (hk : k < w.channels.length) → w.channels[k] < 4 := by
    rcases h8 with rfl | rfl <;> decide
  obtain ⟨bytes, d, h1, h2, _, h4, h5, _, h7, _, h9, h10⟩ :=
    image_roundtrip w sx sy (bytesOfWords words) (by rw [length_bytesOfWords, hlen, hpw])
      (by rw [hsb]; simpa using bytesOfWords_lt words)
  refine ⟨bytes, d, h1, h2, h4, h5, h7.trans hmv, h9, fun y x k hy hx hk => ?_⟩
  rw [h10 y x k hy hx hk, hbu, hpw]
  exact bytesOfWords_getElem? words _ _ (hch k hk)

example : ∃ bytes d, writeImage fmtPPM 2 2 (bytesOfWords [0x04030201, 0x08070605, 0x0c0b0a09, 0x100f0e0d]) = some bytes ∧
    decode bytes = some d ∧ d.samples[0]? = some 9 ∧ d.samples[5]? = some 15 ∧ d.samples[11]? = some 7 := by
  obtain ⟨bytes, d, h1, h2, _, _, _, _, h⟩ :=
    ppm_pgm_roundtrip_words .ppm (Or.inl rfl) 2 2 [0x04030201, 0x08070605, 0x0c0b0a09, 0x100f0e0d] rfl
  exact ⟨bytes, d, h1, h2, (h 0 0 0 (by decide) (by decide) (by decide)).trans (by decide),
    (h 0 1 2 (by decide) (by decide) (by decide)).trans (by decide),
    (h 1 1 2 (by decide) (by decide) (by decide)).trans (by decide)⟩

/-- trace_wellformed: whatever the registry contains (any number of threads, any events in any
    chunking, balanced or not, any iteration order), with or without a process name, the character
    stream saveLog writes is a well-formed JSON array (grammar `JArr` over the token stream). -/
theorem trace_wellformed (pid : Nat) (proc : Option String) (idText : Nat → String) (ths : List (Nat × ThreadLog)) :
    JArr (saveLog pid proc idText ths) := by
  obtain ⟨os, h⟩ := saveLog_objs pid proc idText ths
  exact h ▸ JArr_sepBy os

/-- in particular for every recorded history, every chunk size and every iteration order -/
theorem trace_wellformed_history (cs pid : Nat) (proc : Option String) (idText : Nat → String) (h : List Call)
    (ths : List (Nat × ThreadLog)) (hp : ths.Perm (runR cs h)) : JArr (saveLog pid proc idText ths) :=
  trace_wellformed pid proc idText ths

/-- witness: before fix C20-savelog-empty the log of a process that recorded nothing and gave no
    process name was the single character `]`, which is not a JSON array. -/
theorem trace_wellformed_prefix_fails : saveLogOld 1 none (fun _ => "") [] = [rbrack] ∧ ¬ JArr [rbrack] := by
  refine ⟨by decide, ?_⟩
  intro h
  cases h

example : saveLog 1 none (fun _ => "") [] = [lbrack, rbrack] := by decide
-- the pre-fix closing step is right whenever something was emitted
example (o : List Tok) (os : List (List Tok)) : finishOld (lbrack :: withCommas (o :: os)) = finish (lbrack :: withCommas (o :: os)) := by
  rw [finishOld_eq, finish_eq]

/-- trace_complete_ordered: for every history `h` of API calls by any number of threads in any
    interleaving that respects the precondition (no endEvent without an open beginEvent on that
    thread), every chunk size, and every order `ths` in which the registry is iterated: the output
    parses (independent token automaton), the events carrying `tid = i` are exactly the
    begin/end/marker/counter calls of thread `ths[i]` in call order, and every thread that made a
    call appears exactly once. -/
theorem trace_complete_ordered (cs pid : Nat) (proc : Option String) (idText : Nat → String) (h : List Call)
    (hv : Valid h) (ths : List (Nat × ThreadLog)) (hp : ths.Perm (runR cs h)) :
    ∃ objs, parseArray (saveLog pid proc idText ths) = some objs ∧
      (∀ i, (hi : i < ths.length) → eventsOf objs i = recordedOf h ths[i].1) ∧
      (∀ i, ths.length ≤ i → eventsOf objs i = []) ∧
      (∀ c ∈ h, c.tid ∈ ths.map (·.1)) ∧ (ths.map (·.1)).Nodup := by
  have hids := runR_ids cs h hv
  obtain ⟨objs, hparse, hsel⟩ := parse_saveLog_of_valid cs pid proc idText h hv ths hp
  refine ⟨objs, hparse, fun i hi => ?_, fun i hi => ?_, fun c hc => (hp.map (·.1)).mem_iff.mpr (hids ▸ mem_tids hc),
    (hp.map (·.1)).nodup_iff.mpr (hids ▸ nodup_tids h)⟩
  · rw [eventsOf_eq, hsel, List.getElem?_eq_getElem hi, Option.map_some, Option.getD_some, canon_scan, canon_evsOf]
  · rw [eventsOf_eq, hsel, List.getElem?_eq_none hi]
    rfl

-- non-vacuity: a valid two-thread history with nesting
example : Valid [⟨0, .end_, 9⟩, ⟨1, .counter "n" 5, 8⟩, ⟨0, .end_, 7⟩, ⟨0, .begin "b" none, 6⟩, ⟨1, .setName "t1", 5⟩,
    ⟨0, .marker "m" (some "c"), 4⟩, ⟨0, .begin "a" (some "c"), 3⟩] := by decide
example : recordedOf [⟨0, .end_, 9⟩, ⟨1, .counter "n" 5, 8⟩, ⟨0, .end_, 7⟩, ⟨0, .begin "b" none, 6⟩, ⟨1, .setName "t1", 5⟩,
    ⟨0, .marker "m" (some "c"), 4⟩, ⟨0, .begin "a" (some "c"), 3⟩] 0
    = [.b "a" (some "c"), .m "m" (some "c"), .b "b" none, .e, .e] := by decide

/-- trace_nested: under the same hypotheses the objects of thread `i` pass the stack check
    `nestCheck` — every "E" closes the most recent open "B", every derived cpuUtilization counter
    directly follows an "E" and carries the time stamp of the "B" that "E" closed — and the number of
    begins left open equals begins minus ends of that thread in the history. -/
theorem trace_nested (cs pid : Nat) (proc : Option String) (idText : Nat → String) (h : List Call)
    (hv : Valid h) (ths : List (Nat × ThreadLog)) (hp : ths.Perm (runR cs h)) :
    ∃ objs, parseArray (saveLog pid proc idText ths) = some objs ∧
      ∀ i, (hi : i < ths.length) → nestCheck [] none (threadObjs objs i) = some (depthOf h ths[i].1) := by
  obtain ⟨objs, hparse, hsel⟩ := parse_saveLog_of_valid cs pid proc idText h hv ths hp
  refine ⟨objs, hparse, fun i hi => ?_⟩
  rw [hsel, List.getElem?_eq_getElem hi, Option.map_some, Option.getD_some]
  exact (nestCheck_scan pid i [] _ none (endsMatched_evsOf h hv _).1 (evsOf_ok h _)).trans (congrArg some (endsMatched_evsOf h hv _).2)

/-- what saveLog reads of a registry entry when no end event lacks its begin (`view`): thread id,
    thread name, the events in order -/
theorem saveLog_depends_on_events_only (pid : Nat) (proc : Option String) (idText : Nat → String)
    (ths1 ths2 : List (Nat × ThreadLog)) (hview : ths1.map view = ths2.map view)
    (hm : ∀ th ∈ ths1, EndsMatched [] th.2.all) :
    saveLog pid proc idText ths1 = saveLog pid proc idText ths2 := by
  have hm2 : ∀ th ∈ ths2, EndsMatched [] th.2.all :=
    List.forall_mem_map (f := view) (P := fun v => EndsMatched [] v.2.2) |>.mp (hview ▸ List.forall_mem_map.mpr hm)
  rw [saveLog_of_view hm, saveLog_of_view hm2, hview]

/-- chunk_boundary_irrelevant: for every valid history and any two chunk sizes (including 0 and 1)
    the registries hold the same threads, names and event sequences, and saveLog writes the same
    stream — also when both registries are iterated in any common order `σ`. -/
theorem chunk_boundary_irrelevant (cs1 cs2 pid : Nat) (proc : Option String) (idText : Nat → String)
    (h : List Call) (hv : Valid h) :
    (runR cs1 h).map view = (runR cs2 h).map view ∧
    saveLog pid proc idText (runR cs1 h) = saveLog pid proc idText (runR cs2 h) ∧
    ∀ (σ : List Nat), saveLog pid proc idText (σ.filterMap ((runR cs1 h)[·]?)) =
      saveLog pid proc idText (σ.filterMap ((runR cs2 h)[·]?)) := by
  have hview := runR_view cs1 cs2 h hv
  have hm := endsMatched_of_valid hv (runR_all cs1 h hv)
  refine ⟨hview, saveLog_depends_on_events_only pid proc idText _ _ hview hm, fun σ => ?_⟩
  have hσ (r : Recorder) : (σ.filterMap (r[·]?)).map view = σ.filterMap ((r.map view)[·]?) := by
    simp [List.map_filterMap, List.getElem?_map]
  apply saveLog_depends_on_events_only
  · rw [hσ, hσ, hview]
  · intro th hth
    obtain ⟨j, _, hj⟩ := List.mem_filterMap.mp hth
    exact hm th (List.mem_of_getElem? hj)

/-- the chunked storage itself: the events of a thread, in order, whatever the chunk size -/
theorem chunks_hold_all_events (cs : Nat) (h : List Call) (hv : Valid h) :
    ∀ p ∈ runR cs h, p.2.chunks.flatten = evsOf h p.1 :=
  runR_all cs h hv

example : (runR 1 [⟨0, .marker "b" none, 2⟩, ⟨0, .marker "a" none, 1⟩]).map (·.2.chunks.length) = [2] := by decide
example : (runR 3 [⟨0, .marker "b" none, 2⟩, ⟨0, .marker "a" none, 1⟩]).map (·.2.chunks.length) = [1] := by decide
-- `Valid` is needed: the `break` at an unmatched end leaves only the chunk, so the chunking shows
example :
    let h : List Call := [⟨0, .marker "m" none, 3⟩, ⟨0, .end_, 2⟩, ⟨0, .marker "a" none, 1⟩]
    saveLog 1 none (fun _ => "") (runR 1 h) ≠ saveLog 1 none (fun _ => "") (runR 8 h) := by decide

end RkVerif.C20
