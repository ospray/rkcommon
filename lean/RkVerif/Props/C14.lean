/-
Property C14 — aligned allocation returns aligned, usable, correctly released memory.

PROVED here (for all inputs / all histories):
  * the arithmetic rkcommon itself performs: `max_size`, the guard chain of
    `aligned_allocator::allocate` (no overflow of `n*sizeof(T)`, length_error exactly when the
    request does not fit `size_t`), `isAligned`, `ALIGN_PTR`;
  * AlignedVector as sequences of allocate / copy / deallocate over ANY system allocator that meets
    the contract `SysOK` and ANY growth policy: after every history `data()` is null or a multiple
    of the alignment, the elements are those std::vector's specification determines (they survive
    every reallocation), nothing is constructed outside the owned block, only live blocks are
    freed, and the live set is exactly the storage the vectors own (no leak, no double free).
ASSUMED / OBSERVED only (not proved): that scalable_aligned_malloc / _mm_malloc and their free
functions meet `SysOK` — the correspondence harness checks this on every run.
-/
import RkVerif.Lemmas.C14

namespace RkVerif.C14

variable {V : Type}

/-- max_size() is exactly the largest element count whose byte size fits `size_t`. -/
theorem max_size_exact (sz : Nat) (hsz : 0 < sz) :
    maxSize sz * sz < W ∧ W ≤ (maxSize sz + 1) * sz :=
  ⟨(le_maxSize_iff hsz _).mp (Nat.le_refl _),
    Nat.le_of_not_lt fun h => Nat.not_succ_le_self _ ((le_maxSize_iff hsz _).mpr h)⟩

/-- no_mul_overflow: when the guard chain reaches alignedMalloc, the requested byte count is the
    mathematical product `n * sizeof(T)` (no wrap-around), is positive, and the alignment passed
    is the allocator's. -/
theorem no_mul_overflow (A sz n bytes align : Nat) (hsz : 0 < sz)
    (h : allocGuard A sz n = .request bytes align) :
    bytes = n * sz ∧ n * sz < W ∧ 0 < bytes ∧ align = A := by
  rw [allocGuard_eq A hsz] at h
  split at h
  · cases h
  · split at h
    · cases h
    · cases h
      exact ⟨rfl, Nat.lt_of_not_le ‹_›, Nat.mul_pos (Nat.pos_of_ne_zero ‹_›) hsz, rfl⟩

/-- length_error_iff: allocate(n) throws length_error exactly when `n * sizeof(T)` does not fit `size_t`. -/
theorem length_error_iff (A sz n : Nat) (hsz : 0 < sz) :
    allocGuard A sz n = .lengthError ↔ W ≤ n * sz := by
  rw [allocGuard_eq A hsz]
  by_cases h0 : n = 0
  · simp [h0, Nat.ne_of_gt W_pos]
  · by_cases h1 : W ≤ n * sz <;> simp [h0, h1]

/-- allocate(0) returns nullptr without touching the system allocator. -/
theorem allocate_zero (A sz : Nat) : allocGuard A sz 0 = .null := if_pos rfl

/-- isAligned_iff: isAligned(p, a) holds exactly for the multiples of `a`. -/
theorem isAligned_iff (p a : Nat) : isAligned p a = true ↔ ∃ k, p = k * a := by
  simp only [isAligned, beq_iff_eq]
  constructor
  · intro h; exact ⟨p / a, (Nat.div_mul_cancel (Nat.dvd_of_mod_eq_zero h)).symm⟩
  · rintro ⟨k, rfl⟩; exact Nat.mul_mod_left k a

/-- align_ptr_least_multiple: for a power-of-two alignment (and `p + a - 1` representable, i.e. no
    wrap at the top of the address space) ALIGN_PTR(p, a) is the least multiple of `a` that is ≥ p. -/
theorem align_ptr_least_multiple (p k : Nat) (hk : k < 64) (hp : p + 2 ^ k - 1 < W) :
    alignPtr p (2 ^ k) % 2 ^ k = 0 ∧ p ≤ alignPtr p (2 ^ k) ∧ alignPtr p (2 ^ k) < p + 2 ^ k ∧
    ∀ m, m % 2 ^ k = 0 → p ≤ m → alignPtr p (2 ^ k) ≤ m := by
  rw [alignPtr_two_pow hk hp]
  exact ceil_mul_spec p (Nat.pow_pos (by decide))

/-- avec_invariant: after EVERY history of push_back / pop_back / resize / reserve / shrink_to_fit /
    assign / copy assignment / swap / clear / insert / erase / element write / release on two
    vectors sharing the allocator, for EVERY allocator meeting the contract and EVERY growth policy, `Inv`
    holds: no fault was raised, both vectors are well-formed (storage non-null, a multiple of the alignment,
    inside the address space, `size ≤ capacity`), the live blocks are pairwise apart, and the live set is
    exactly the storage the two vectors own. -/
theorem avec_invariant (c : Cfg) (hs : SysOK c.sys) (hg : GrowOK c) (hA : 0 < c.A) (hsz : 0 < c.sz)
    (hist : List (Op V)) : Inv c (runR c hist) :=
  (runR_spec hs hg hA hsz hist).1

/-- avec_data_aligned: after every history `data()` of either vector is a multiple of the alignment
    (64 for AlignedVector); it is null exactly when the vector has no capacity, and then the vector
    is empty. -/
theorem avec_data_aligned (c : Cfg) (hs : SysOK c.sys) (hg : GrowOK c) (hA : 0 < c.A) (hsz : 0 < c.sz)
    (hist : List (Op V)) (k : Bool) :
    ((runR c hist).get k).data % c.A = 0 ∧
    (((runR c hist).get k).data = 0 ↔ ((runR c hist).get k).cap = 0) ∧
    ((runR c hist).get k).size ≤ ((runR c hist).get k).cap :=
  ((avec_invariant c hs hg hA hsz hist).wf_get k).data_spec

/-- avec_elements_preserved: after every history the elements of both vectors are exactly those
    std::vector's specification determines from the history (`specR`) — in particular they survive
    every reallocation (growth, reserve, shrink_to_fit, copy assignment) unchanged. -/
theorem avec_elements_preserved (c : Cfg) (hs : SysOK c.sys) (hg : GrowOK c) (hA : 0 < c.A) (hsz : 0 < c.sz)
    (hist : List (Op V)) :
    ((runR c hist).a.contents, (runR c hist).b.contents) = specR c hist :=
  (runR_spec hs hg hA hsz hist).2

/-- avec_no_fault_no_leak: no history constructs an element outside the owned block or frees an
    address that is not live (`fault` stays false); every live block is owned by one of the two
    vectors and has exactly `capacity * sizeof(T)` bytes; live blocks never overlap; once both
    vectors are released nothing is left allocated. -/
theorem avec_no_fault_no_leak (c : Cfg) (hs : SysOK c.sys) (hg : GrowOK c) (hA : 0 < c.A) (hsz : 0 < c.sz)
    (hist : List (Op V)) :
    (runR c hist).fault = false ∧
    (runR c hist).live.Perm (extOf c (runR c hist).a ++ extOf c (runR c hist).b) ∧
    (runR c hist).live.Pairwise Apart ∧
    (runR c (.on false .release :: .on true .release :: hist)).live = [] := by
  have inv := avec_invariant c hs hg hA hsz hist
  refine ⟨inv.nofault, inv.perm, inv.apart, ?_⟩
  -- both vectors are `none` after the two releases, and the live set is what the vectors own
  exact List.Perm.eq_nil
    (avec_invariant c hs hg hA hsz (.on false .release :: .on true .release :: hist)).perm

/-- A failed operation (length_error / bad_alloc) leaves the whole state unchanged. -/
theorem failed_op_changes_nothing (c : Cfg) (hs : SysOK c.sys) (hg : GrowOK c) (hA : 0 < c.A) (hsz : 0 < c.sz)
    (hist : List (Op V)) (op : Op V) (h : (step c (runR c hist) op).2 ≠ .ok) :
    runR c (op :: hist) = runR c hist :=
  (step_spec hs hg hA hsz (avec_invariant c hs hg hA hsz hist) op).2.2 h

/-- reserve throws length_error exactly beyond `std::vector::max_size()` (`vmax`; the allocator's own
    `max_size()` is `maxSize`). -/
theorem reserve_length_error_iff (c : Cfg) (s : VS V) (n : Nat) :
    (vstep c s (.reserve n)).2 = .lengthError ↔ n > vmax c := by
  refine ⟨fun h => ?_, fun h => by simp [vstep, h]⟩
  simp only [vstep] at h
  split at h
  · assumption
  · split at h
    · cases h
    · -- inside max_size() the allocator's own guard cannot fire
      have := regrow_lengthError h
      have : vmax c ≤ maxSize c.sz := Nat.min_le_right _ _
      omega

/-! ## The contract is satisfiable (non-vacuity) and the driver's instance meets it -/

theorem roundUp_spec (x a : Nat) (ha : 0 < a) : roundUp x a % a = 0 ∧ x ≤ roundUp x a := by
  unfold roundUp
  split
  · exact ⟨by rw [show a = 1 by omega, Nat.mod_one], Nat.le_refl _⟩
  · exact ⟨(ceil_mul_spec x ha).1, (ceil_mul_spec x ha).2.1⟩

theorem foldl_top_ge (live : List Ext) (m : Nat) :
    m ≤ live.foldl (fun m e => max m (e.addr + e.bytes + 1)) m ∧
    ∀ e ∈ live, e.addr + e.bytes + 1 ≤ live.foldl (fun m e => max m (e.addr + e.bytes + 1)) m := by
  induction live generalizing m with
  | nil => simp
  | cons x rest ih =>
    simp only [List.foldl_cons, List.mem_cons, forall_eq_or_imp]
    have := ih (max m (x.addr + x.bytes + 1))
    refine ⟨by omega, by omega, this.2⟩

/-- The bump allocator used by the driver meets the contract — so `SysOK` is satisfiable. -/
theorem bumpSys_ok : SysOK bumpSys := by
  intro live bytes align p ha h
  unfold bumpSys at h
  split at h
  · simp at h
  · simp only at h
    split at h
    · simp at h
    · rename_i h1 h2
      injection h with h
      have hr := roundUp_spec (live.foldl (fun m e => max m (e.addr + e.bytes + 1)) 4096) align ha
      have ht := foldl_top_ge live 4096
      subst h
      refine ⟨by omega, hr.1, by omega, ?_⟩
      intro e he
      have := ht.2 e he
      exact ⟨by simp only; omega, Or.inr (by simp only; omega)⟩

theorem stdCfg_ok (sz : Nat) : SysOK (stdCfg sz).sys ∧ GrowOK (stdCfg sz) ∧ 0 < (stdCfg sz).A :=
  ⟨bumpSys_ok, fun s e => by simp only [stdCfg, stdGrow]; omega, by simp [stdCfg]⟩

example : maxSize 12 = 1537228672809129301 := by decide
example : allocGuard 64 12 1537228672809129301 = .request 18446744073709551612 64 := by decide
example : allocGuard 64 12 1537228672809129302 = .lengthError := by decide
example : allocGuard 64 1 (W - 1) = .request (W - 1) 64 := by decide
-- without the guard the product would wrap to a small request: 1537228672809129302 * 12 mod 2^64 = 8
example : (1537228672809129302 * 12) % W = 8 := by decide
-- ALIGN_PTR on concrete values; the no-wrap hypothesis of align_ptr_least_multiple is needed:
example : alignPtr 65 64 = 128 ∧ alignPtr 64 64 = 64 ∧ alignPtr 0 4096 = 0 := by decide
example : alignPtr (W - 1) 64 = 0 := by decide
-- for a non-power-of-two alignment the macro does not produce a multiple: ALIGN_PTR(1, 12) = 4
example : alignPtr 1 12 = 4 := by decide
example : (runR (stdCfg 4) [Op.swap, .copyAssign true, .on false .shrink, .on false (.push 3),
    .on false (.push 2), .on false (.reserve 1), .on false (.push 1)]).a.contents = [1, 2, 3] := by decide
example : ((runR (stdCfg 4) [Op.on false (.push 3), .on false (.push 2), .on false (.push (1 : Nat))]).a.data) % 64 = 0 := by
  decide
-- failing operations exist (so the `≠ ok` branches are not vacuous)
example : (step (stdCfg 4) (St.init (V := Nat)) (.on false (.reserve (W / 4)))).2 = .lengthError := by decide
example : (step (stdCfg 4) (St.init (V := Nat)) (.on false (.reserve (2 ^ 50)))).2 = .badAlloc := by decide

end RkVerif.C14
