/-
Property C13 — the configured tasking thread count is reported and never exceeded (PARTIAL).
Every theorem declared in this module is an audited proof obligation of the check.

Two halves, both about the model. The init / re-init state machine of the four backends, for every history:
what `numTaskingThreads()` reports and how many threads a loop can use (the known per-thread gap under OpenMP is
stated with its witness). The internal backend's scheduler, for every interleaving: which threads it creates and
that at most `numThreads` of them are inside loop bodies at once (the `internal_*` theorems).
NOT proved (contract, observed by the harness on every run): that TBB runs tasks on at most
`global_control::active_value` threads and that an OpenMP team has at most nthreads-var threads —
in the model this is the definition of `backendThreads` for `.tbb` / `.omp`.
-/
import RkVerif.Lemmas.C13

namespace RkVerif.C13

/-- Before any initialisation (whatever loops or queries ran) the reported count is 0. -/
theorem num_before_init (b : Backend) (hw : Nat) (hist : List Op) (h : ∀ op ∈ hist, isInit op = false) :
    numTaskingThreads b hw (runR b hw hist) = 0 := by
  rw [← List.append_nil hist, num_append b hw hist [] h]
  rfl

/-- After `initTaskingSystem(n)` with `n > 0` — as first or as any later
    initialisation, after *every* earlier history — `numTaskingThreads()` is `n` (1 under Debug). -/
theorem num_after_init (b : Backend) (hw : Nat) (hist : List Op) (n : Int) (hn : n > 0) :
    (numTaskingThreads b hw (runR b hw (.init n :: hist)) : Int) = expected b n := by
  simp only [num_runR, lastInit, if_pos hn]
  exact Int.toNat_of_nonneg (Int.le_of_lt (expected_pos b hn))

/-- … and it stays `n` while loops run and queries are made (no `init` in `later`). -/
theorem num_stable_after_init (b : Backend) (hw : Nat) (hist later : List Op) (n : Int) (hn : n > 0)
    (hl : ∀ op ∈ later, isInit op = false) :
    (numTaskingThreads b hw (runR b hw (later ++ .init n :: hist)) : Int) = expected b n := by
  rw [num_append b hw later _ hl]
  exact num_after_init b hw hist n hn

/-- Initialising again with another `m > 0` replaces the previous setting,
    whatever it was (`n > 0`, `n ≤ 0`) and whatever happened in between. -/
theorem reinit_replaces (b : Backend) (hw : Nat) (hist between : List Op) (n m : Int) (hm : m > 0) :
    (numTaskingThreads b hw (runR b hw (.init m :: (between ++ .init n :: hist))) : Int) = expected b m :=
  num_after_init b hw _ m hm

/-- TBB, re-initialisation `n > 0` → `m > 0`. In the window in which the new handle
    is constructed and the old one not yet destroyed both global_controls are alive and the
    effective limit is `min m n` (never above either setting); once the old handle is destroyed it is `m`. -/
theorem tbb_overlap_min (hw : Nat) (hist : List Op) (n m : Int) (hn : n > 0) (hm : m > 0) :
    let s := runR .tbb hw (.init n :: hist)
    let mid := (initMid .tbb hw s m).1
    mid.gcs = [m.toNat, n.toNat] ∧
    tbbActive hw mid.gcs = min m.toNat n.toNat ∧
    (initTaskingSystem .tbb hw s m).gcs = [m.toNat] ∧
    tbbActive hw (initTaskingSystem .tbb hw s m).gcs = m.toNat := by
  intro s mid
  have hs : s = closed .tbb hw (.init n :: hist) := runR_eq_closed _ _ _
  have hf : initTaskingSystem .tbb hw s m = closed .tbb hw (.init m :: .init n :: hist) :=
    runR_eq_closed .tbb hw (.init m :: .init n :: hist)
  have hmid : mid.gcs = [m.toNat, n.toNat] := by
    show (initMid .tbb hw s m).1.gcs = _
    rw [hs]; simp [initMid, construct, closed, lastInit, hn, hm]
  rw [hf, hmid]
  simp [closed, lastInit, hm, tbbActive, listMin]

/-- A *first* initialisation with `n ≤ 0` selects the backend default — the
    hardware-derived count `hw` (1 under Debug) — which is positive when `hw` is. -/
theorem default_positive (b : Backend) (hw : Nat) (hist : List Op) (n : Int) (hn : n ≤ 0) (hhw : hw > 0)
    (hfirst : ∀ op ∈ hist, isInit op = false) :
    numTaskingThreads b hw (runR b hw (.init n :: hist)) = (if b = .debug then 1 else hw) ∧
    numTaskingThreads b hw (runR b hw (.init n :: hist)) > 0 := by
  have hp : lastPos hist = none := by rw [← List.append_nil hist, lastPos_append hist [] hfirst]; rfl
  have hn' : ¬ n > 0 := by omega
  simp only [num_runR, lastInit, lastPos, if_neg hn', hp, Option.getD_none, ite_self]
  split <;> simp [hhw]

/-- After *any* initialisation (first or later, `n > 0` or `n ≤ 0`, any
    history) the reported count is positive when the hardware default is. -/
theorem num_pos_after_init (b : Backend) (hw : Nat) (hist : List Op) (n : Int) (hhw : hw > 0) :
    numTaskingThreads b hw (runR b hw (.init n :: hist)) > 0 :=
  num_pos b hhw (hist := .init n :: hist) rfl

/-- For every history, a loop started now can use at most the limit the
    harness compares with (configured `n` if the last init had `n > 0`, else the reported value) —
    so `maxConcurrency ≤ limit` for every loop size. For TBB/OpenMP "can use" is the contract. -/
theorem pfor_within_limit (b : Backend) (hw : Nat) (hist : List Op) (l size : Nat)
    (h : limitOf b hw (parallelFor b hw (runR b hw hist)) (lastInit hist) = some l) :
    maxConcurrency b hw (runR b hw hist) size ≤ l := by
  refine Nat.le_trans (Nat.min_le_right _ _) ?_
  cases hl : lastInit hist with
  | none => simp [limitOf, hl] at h
  | some n =>
    have hl' : lastInit (.pfor :: hist) = some n := hl
    -- the state in which the loop runs is the one after `.pfor`, where the handle exists
    have e : availThreads b hw (runR b hw hist) = numTaskingThreads b hw (runR b hw (.pfor :: hist)) :=
      (num_eq_backendThreads b hw hl').symm
    rw [e]
    simp only [limitOf, hl] at h
    split at h <;> cases h
    next hn =>
      simp only [num_runR, hl', if_pos hn]
      exact Int.toNat_le_toNat (expected_le b hn)
    next => exact Nat.le_refl _

/-! ## Other threads (known finding C13-omp-limit-per-thread)

Full statement (what the property asks, process-wide): for every thread `t`,
`numTaskingThreadsOn b hw (runR b hw (.init n :: hist)) t = expected b n`.
It is FALSE for the OpenMP backend on a thread other than the initialising one (witness below,
reproduced on the real code by the `tnum` / `tpfor` ops); proved is the `_partial` form. -/

/-- witness: OpenMP, `init 3`, queried on another thread: the default 16, not 3 -/
theorem omp_other_thread_witness :
    numTaskingThreadsOn .omp 16 (runR .omp 16 [.init 3]) false = 16 ∧
    (numTaskingThreadsOn .omp 16 (runR .omp 16 [.init 3]) false : Int) ≠ expected .omp 3 := by decide

/-- On the initialising thread, or under any backend other than
    OpenMP, the reported count after `init n`, `n > 0` is `n` (1 under Debug) on every thread.
    Missing for the full statement: OpenMP on other threads. -/
theorem num_after_init_any_thread_partial (b : Backend) (hw : Nat) (hist : List Op) (n : Int) (hn : n > 0)
    (onInitThread : Bool) (hex : b ≠ .omp ∨ onInitThread = true) :
    (numTaskingThreadsOn b hw (runR b hw (.init n :: hist)) onInitThread : Int) = expected b n := by
  rw [numTaskingThreadsOn_eq hex]
  exact num_after_init b hw hist n hn

/-- `StartThreads` creates exactly `n - 1` threads, numbered `1 … n-1`, each once. -/
theorem internal_worker_count (n : Nat) :
    (startThreads n).length = n - 1 ∧ (startThreads n).Nodup ∧ ∀ i, i ∈ startThreads n ↔ 1 ≤ i ∧ i < n :=
  ⟨startThreads_length n, startThreads_nodup n, mem_startThreads n⟩

/-- After `init n`, `n > 0` (any history, any later loops) the live
    scheduler has `m_NumThreads = n` and `n - 1` created threads. Only the live scheduler is modelled
    (`g_ts` is a `unique_ptr`; assigning it destroys the previous scheduler, which joins its threads):
    the theorem says nothing about threads of earlier schedulers. -/
theorem internal_threads_after_init (hw : Nat) (hist later : List Op) (n : Int) (hn : n > 0)
    (hl : ∀ op ∈ later, isInit op = false) :
    ∃ sc, (runR .internal hw (later ++ .init n :: hist)).sched = some sc ∧
      sc.numThreads = n.toNat ∧ sc.workers.length = n.toNat - 1 := by
  have h1 : ¬ n < 1 := by omega
  have h0 : ¬ n ≤ 0 := by omega
  refine ⟨initTaskSystemInternal hw n, ?_, by simp [initTaskSystemInternal, h1],
    by simp [initTaskSystemInternal, h1, startThreads_length]⟩
  rw [sched_runR hw (n := n) (lastInit_append later _ hl), if_neg h0]

/-- General form of `internal_concurrency_bound`: `n - 1` created workers and `e` external threads that use the
    scheduler. -/
theorem internal_concurrency_bound_general (n e : Nat) (s : Sys) (h : Reachable n e s)
    (L : List Thread) (hnd : L.Nodup) (hin : ∀ t ∈ L, s.inBody t = true) :
    L.length ≤ (n - 1) + e := by
  have := hnd.length_le_of_subset fun t ht => h.inBody_mem (hin t ht)
  rw [membersList_length] at this
  omega

/-- One calling thread (the harness's situation) and `n ≥ 1`: in every
    reachable state — any interleaving, nested loops and nested waits included — the number of
    threads simultaneously executing bodies is at most `n = numThreads`. -/
theorem internal_concurrency_bound (n : Nat) (hn : n ≥ 1) (s : Sys) (h : Reachable n 1 s) :
    s.concurrency ≤ n := by
  have hb := internal_concurrency_bound_general n 1 s h s.activeThreads (dedup_nodup _)
    fun t => (mem_activeThreads s t).mp
  unfold Sys.concurrency
  omega

/-- Executable form: the state is the one a schedule (list of thread actions) produces from `Sys.boot n 1`. -/
theorem internal_concurrency_bound_exec (n : Nat) (hn : n ≥ 1) (acts : List Act) (s : Sys)
    (hx : (Sys.boot n 1).exec acts = some s) : s.concurrency ≤ n :=
  internal_concurrency_bound n hn s (reachable_exec .boot hx)

/-- End to end for the internal backend: after `init n` (`n > 0`, any history, any later loops) the
    live scheduler is `Sys.boot n 1`'s scheduler, so every state it reaches has concurrency ≤ `n`,
    the reported `numTaskingThreads()`. -/
theorem internal_end_to_end (hw : Nat) (hist later : List Op) (n : Int) (hn : n > 0)
    (hl : ∀ op ∈ later, isInit op = false) (acts : List Act) (s : Sys) :
    ∃ sc, (runR .internal hw (later ++ .init n :: hist)).sched = some sc ∧
      ((Sys.boot sc.numThreads 1).exec acts = some s →
        s.concurrency ≤ numTaskingThreads .internal hw (runR .internal hw (later ++ .init n :: hist))) := by
  obtain ⟨sc, hsc, hnum, _⟩ := internal_threads_after_init hw hist later n hn hl
  refine ⟨sc, hsc, fun hx => ?_⟩
  have hN : (numTaskingThreads .internal hw (runR .internal hw (later ++ .init n :: hist)) : Int) = n :=
    num_stable_after_init .internal hw hist later n hn hl
  have := internal_concurrency_bound_exec sc.numThreads (by omega) acts s hx
  omega

-- the re-initialisation sequence -1,3,1,5,2,8 (with a loop in between) on every backend
example : (List.map (fun b => numTaskingThreads b 16 (runR b 16 [.init 8, .init 2, .pfor, .init 5, .init 1, .init 3, .init (-1)]))
    [.tbb, .omp, .internal, .debug]) = [8, 8, 8, 1] := by decide
example : (List.map (fun b => numTaskingThreads b 16 (runR b 16 [.init (-1)])) [.tbb, .omp, .internal, .debug])
    = [16, 16, 16, 1] := by decide
-- a later init with n ≤ 0: TBB/Internal fall back to the default, OpenMP keeps the last setting
example : (List.map (fun b => numTaskingThreads b 16 (runR b 16 [.init 0, .init 3])) [.tbb, .omp, .internal, .debug])
    = [16, 3, 16, 1] := by decide
-- a loop before any init creates the internal scheduler but the reported count stays 0
example : numTaskingThreads .internal 16 (runR .internal 16 [.pfor]) = 0 ∧
    ((runR .internal 16 [.pfor]).sched.map (·.numThreads)) = some 16 := by decide
-- the hypotheses of tbb_overlap_min are satisfiable and the window is real
example : ((initMid .tbb 16 (runR .tbb 16 [.init 8]) 2).1.gcs, (initMid .tbb 16 (runR .tbb 16 [.init 2]) 8).1.gcs)
    = ([2, 8], [8, 2]) := by decide

/-- the bound is attained: 3 threads (caller + 2 workers) inside bodies, one of them nested -/
example : ((Sys.boot 3 1).exec [.add (.ext 0) 3, .run (.worker 1), .run (.worker 2), .run (.ext 0),
    .add (.worker 1) 2, .run (.worker 1), .run (.ext 0)]).map (·.concurrency) = some 3 := by decide
/-- a nested wait runs the sub-task on the waiting thread: 2 activations, 1 thread -/
example : ((Sys.boot 3 1).exec [.add (.ext 0) 1, .run (.ext 0), .add (.ext 0) 1, .run (.ext 0)]).map
    (fun s => (s.frames.length, s.concurrency)) = some (2, 1) := by decide
/-- threads the scheduler does not know cannot run anything; an idle worker cannot add task sets -/
example : ((Sys.boot 3 1).exec [.add (.ext 0) 3, .run (.worker 3)]) = none ∧
    ((Sys.boot 3 1).exec [.add (.ext 0) 3, .run (.ext 1)]) = none ∧
    ((Sys.boot 3 1).exec [.add (.worker 1) 3]) = none := by decide
/-- the single-caller hypothesis is needed: with two external threads sharing a 2-thread
    scheduler three threads are inside bodies (general bound (n-1)+e = 3) -/
example : ((Sys.boot 2 2).exec [.add (.ext 0) 3, .run (.worker 1), .run (.ext 0), .run (.ext 1)]).map
    (·.concurrency) = some 3 := by decide

end RkVerif.C13
