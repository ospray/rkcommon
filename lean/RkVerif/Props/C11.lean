/-
Property C11 — array wrappers stay in bounds and keep the ownership they document.
Every theorem declared in this module is an audited proof obligation of the check.
All history theorems are about `Cfg.fixed` (the code as it is now); the `legacy_*` theorems are the
witnesses that the special members the compiler generated before the two repairs violate them.
-/
import RkVerif.Lemmas.C11

namespace RkVerif.C11

/-- wrapper_valid: after every history, every live OwnedArray / FixedArray / FixedArrayView exposes a
    range `[ptr, ptr+size)` that lies inside a live allocation, and that allocation is the one the
    wrapper itself owns (its vector's storage / the shared block it holds a share of). -/
theorem wrapper_valid (nb nw : Nat) (hist : List Op) (i : Nat) (w : W)
    (hi : getW (runR Cfg.fixed nb nw hist) i = some w) (ho : w.owning = true) :
    w.base.valid (runR Cfg.fixed nb nw hist).heap = true ∧ ∀ p, w.base.ptr = some p → ownAlloc w = some p.a :=
  valid_of_ok ((reachable_inv nb nw hist).ok i w hi) ho

/-- size() of an OwnedArray is the length of the storage it owns, data() its start. -/
theorem owned_size_is_storage (nb nw : Nat) (hist : List Op) (i : Nat) (b : Base) (x : Nat)
    (hi : getW (runR Cfg.fixed nb nw hist) i = some (.oa b x)) :
    b = setPtr (some ⟨x, 0⟩) (lenAt (runR Cfg.fixed nb nw hist).heap x) ∧
    b.read (runR Cfg.fixed nb nw hist).heap = (cellAt (runR Cfg.fixed nb nw hist).heap x).data :=
  ⟨((reachable_inv nb nw hist).ok i _ hi).2.2, (oa_read (reachable_inv nb nw hist) hi).2⟩

/-- Two OwnedArrays never share storage (copies are deep), after every history. -/
theorem owned_storage_unique (nb nw : Nat) (hist : List Op) (i j : Nat) (b1 b2 : Base) (x y : Nat)
    (hi : getW (runR Cfg.fixed nb nw hist) i = some (.oa b1 x))
    (hj : getW (runR Cfg.fixed nb nw hist) j = some (.oa b2 y)) (hne : i ≠ j) : x ≠ y := by
  rintro rfl
  exact hne ((reachable_inv nb nw hist).uniq i j b1 b2 x hi hj)

/-- The storage of an owning array is never a caller buffer. -/
theorem owning_not_source (nb nw : Nat) (hist : List Op) (i : Nat) (w : W) (a b : Nat)
    (hi : getW (runR Cfg.fixed nb nw hist) i = some w) (ha : ownAlloc w = some a) :
    getBuf (runR Cfg.fixed nb nw hist) b ≠ some a :=
  own_not_buf (reachable_inv nb nw hist) hi ha b

/-- at_bounds: `at(i)` returns an element location exactly for `i < size()` and throws otherwise, for every wrapper
    state in which a non-empty array has a non-null pointer.  `setPtr p n` gives such a state when `p` is non-null
    for `n > 0` (`setPtr_wellformed`); for the owning wrappers of reachable states it follows from `wrapper_valid`
    (a valid null range has size 0). -/
theorem at_bounds (b : Base) (k : Nat) (hp : b.ptr = none → b.n = 0) : (at? b k).isSome = true ↔ k < b.n := by
  unfold at?
  by_cases hk : k ≥ b.n
  · simp [hk]
  · cases h : b.ptr with
    | none => have := hp h; omega
    | some p => simp [hk]; omega

/-- at(i) of a valid wrapper is the address of the i-th element read by iteration, inside live storage. -/
theorem at_reads (h : Heap) (b : Base) (k : Nat) (hv : b.valid h = true) (hk : k < b.n) :
    ∃ p, at? b k = some p ∧ liveAt h p.a = true ∧ p.off < lenAt h p.a ∧
      (cellAt h p.a).data[p.off]? = (b.read h)[k]? := by
  cases hp : b.ptr with
  | none => simp [Base.valid, hp] at hv; omega
  | some q =>
    simp only [Base.valid, hp, Bool.and_eq_true, decide_eq_true_eq] at hv
    refine ⟨⟨q.a, q.off + k⟩, by rw [at?, if_neg (Nat.not_le.mpr hk), hp]; rfl, hv.1,
      show q.off + k < lenAt h q.a by omega, ?_⟩
    simp only [Base.read, hp, List.getElem?_take, hk, if_true, List.getElem?_drop]

/-- at(i) with i ≥ size() throws whatever the state of the wrapper. -/
theorem at_throws (b : Base) (k : Nat) (hk : b.n ≤ k) : at? b k = none := by simp [at?, hk]

/-- iteration_covers_size: the loop `for (p = begin(); p != end(); ++p)` terminates and visits exactly the
    offsets 0, 1, …, size()-1 (once each, in order) — for every wrapper state. -/
theorem iteration_covers_size (b : Base) (fuel : Nat) (hf : b.n ≤ fuel) :
    iterate b fuel = some (List.range b.n) := by
  have := walk_spec b.n 0 fuel hf
  simpa [iterate, List.range_eq_range'] using this

theorem iteration_count (b : Base) (fuel : Nat) (hf : b.n ≤ fuel) :
    (iterate b fuel).map List.length = some (size b) := by
  simp [iteration_covers_size b fuel hf, size]

/-- dataview_offset: over a buffer that is an array of records of `stride` bytes, a DataView made at byte
    offset `fo` (the field's offset in the record) reads, for every index `i` inside the buffer, exactly the
    `tsize` bytes of that field of record `i`. -/
theorem dataview_offset (records : List (List Nat)) (stride fo tsize i : Nat)
    (hl : ∀ r ∈ records, r.length = stride) (hf : fo + tsize ≤ stride) (hi : i < records.length) :
    DV.read records.flatten ⟨fo, stride⟩ tsize i = some ((records[i].drop fo).take tsize) := by
  have hr : records[i].length = stride := hl _ (List.getElem_mem hi)
  have hb : fo + i * stride + tsize ≤ records.flatten.length := by
    rw [flatten_length_uniform records stride hl]
    refine Nat.le_trans ?_ (Nat.mul_le_mul_right stride hi)
    rw [Nat.succ_mul]; omega
  rw [DV.read, if_pos hb, Nat.add_comm fo, ← List.drop_drop, drop_flatten_uniform records stride i hl hi,
    List.drop_append_of_le_length (by omega), List.take_append_of_le_length (by rw [List.length_drop]; omega)]

/-- reads that do not fit into the buffer are rejected by the model (caller-side precondition) -/
theorem dataview_in_buffer (bytes : List Nat) (d : DV) (tsize i : Nat) (l : List Nat)
    (h : DV.read bytes d tsize i = some l) : d.base + i * d.stride + tsize ≤ bytes.length ∧ l.length = tsize := by
  simp only [DV.read] at h
  split at h
  · rename_i hle; cases h; exact ⟨hle, length_take_drop _ hle⟩
  · cases h

/-! ## ownership: contents of owning arrays are independent of sources and of other slots -/

def Op.isWset : Op → Bool
  | .wset _ _ _ => true
  | _ => false

/-- owning_frame (one step, any state that satisfies `Inv`): an operation that does not target slot `i` — whatever it
    does to source buffers (mutate, free, replace) or to other wrappers (destroy, resize, reassign, copy from
    slot `i`, …) — leaves an owning array in slot `i` with the same members, the same contents and valid;
    element writes are allowed as long as they go through a pointer outside slot `i`'s own allocation. -/
theorem owning_frame (s : State) (hinv : Inv s) (op : Op) (i : Nat) (w : W)
    (hi : getW s i = some w) (ho : w.owning = true) (ht : op.targets i = false)
    (hw : ∀ k x v, op = .wset k x v → ∀ wk p, getW s k = some wk → wk.base.ptr = some p → ownAlloc w ≠ some p.a) :
    getW (stepT Cfg.fixed s op) i = some w ∧
    w.base.read (stepT Cfg.fixed s op).heap = w.base.read s.heap ∧
    w.base.valid (stepT Cfg.fixed s op).heap = true :=
  (stepT_ok hinv op).owning hinv hi ho fun h => (Op.touches_cases h).elim (by simp [ht])
    fun ⟨k, x, v, e, wk, p, hk, hp, ha⟩ => hw k x v e wk p hk hp ha

/-- owning_independent: mutating, freeing or replacing any source buffer after construction does not change
    an owning array — after every history, for every buffer operation. -/
theorem owning_independent (nb nw : Nat) (hist : List Op) (i : Nat) (w : W)
    (hi : getW (runR Cfg.fixed nb nw hist) i = some w) (ho : w.owning = true) (b k v : Nat) (xs : List Nat)
    (op : Op) (hop : op = .bufSet b k v ∨ op = .bufFree b ∨ op = .bufNew b xs) :
    getW (runR Cfg.fixed nb nw (op :: hist)) i = some w ∧
    w.base.read (runR Cfg.fixed nb nw (op :: hist)).heap = w.base.read (runR Cfg.fixed nb nw hist).heap ∧
    w.base.valid (runR Cfg.fixed nb nw (op :: hist)).heap = true := by
  apply owning_frame _ (reachable_inv nb nw hist) op i w hi ho
  · rcases hop with h | h | h <;> subst h <;> rfl
  · intro k' x v' e; rcases hop with h | h | h <;> subst h <;> cases e

/-- owning_stable: however the history continues — destroying or resizing the original of a copy,
    reassigning the FixedArray a view was made from, freeing the source buffers, … — an owning array keeps
    members, contents and validity as long as no later operation targets its own slot (element writes
    excluded here; see `owning_frame` for those). -/
theorem owning_stable (nb nw : Nat) (hist later : List Op) (i : Nat) (w : W)
    (hi : getW (runR Cfg.fixed nb nw hist) i = some w) (ho : w.owning = true)
    (hl : ∀ op ∈ later, op.targets i = false ∧ op.isWset = false) :
    getW (runR Cfg.fixed nb nw (later ++ hist)) i = some w ∧
    w.base.read (runR Cfg.fixed nb nw (later ++ hist)).heap = w.base.read (runR Cfg.fixed nb nw hist).heap ∧
    w.base.valid (runR Cfg.fixed nb nw (later ++ hist)).heap = true := by
  refine (run_ok later (reachable_inv nb nw hist)).owning (reachable_inv nb nw hist) hi ho ?_
  rintro ⟨op, hop, s, h⟩
  rcases Op.touches_cases h with h | ⟨k, x, v, rfl, _⟩
  · simp [(hl op hop).1] at h
  · cases (hl _ hop).2

/-- OwnedArrays do not alias anything owning: an element write through any *other* owning wrapper
    never lands in an OwnedArray's storage. -/
theorem owned_not_aliased (s : State) (hinv : Inv s) (i k : Nat) (b : Base) (x : Nat) (wk : W) (p : Ptr)
    (hi : getW s i = some (.oa b x)) (hk : getW s k = some wk) (hne : i ≠ k) (ho : wk.owning = true)
    (hp : wk.base.ptr = some p) : p.a ≠ x := by
  rintro rfl
  have hown := (valid_of_ok (hinv.ok k wk hk) ho).2 p hp
  obtain ⟨b', rfl⟩ := oa_of_isOA (WOk_same_kind (hinv.ok i _ hi) (hinv.ok k wk hk) rfl hown) hown
  exact hne (hinv.uniq i k b b' _ hi hk)

/-! ## size()/data()/contents after each kind of operation ("consistent with the last operation") -/

/-- OwnedArray(ptr,size) / OwnedArray(vector&) / operator=(vector&) / reset(ptr,size): size() is the count
    handed in, the contents are the source's elements at that moment. -/
theorem oa_set_post (s : State) (hinv : Inv s) (i : Nat) (src : Src) (fresh : Bool) (r : Res)
    (hi : i < s.ws.length) (hf : fresh = true ∨ isOA (getW s i) = true) (hr : resolve s src = some r) :
    ∃ s1 b x, step Cfg.fixed s (.oaSet i src fresh) = some s1 ∧ getW s1 i = some (.oa b x) ∧
      size b = r.cnt ∧ b.read s1.heap = r.vals := by
  have hc : (fresh || isOA (getW s i)) = true := by rcases hf with h | h <;> simp [h]
  have h := mkOA_post hinv i r.vals hi
  exact ⟨_, _, _, by simp [step, hc, hr], h.1, resolve_vals_length hr, h.2⟩

/-- resize(n, v): size() = n, the first min(n, old size) elements are kept, the rest are `v`. -/
theorem oa_resize_post (s : State) (hinv : Inv s) (i n v : Nat) (b0 : Base) (x0 : Nat)
    (h0 : getW s i = some (.oa b0 x0)) :
    ∃ s1 b x, step Cfg.fixed s (.oaResize i n v) = some s1 ∧ getW s1 i = some (.oa b x) ∧ size b = n ∧
      b.read s1.heap = (b0.read s.heap).take n ++ List.replicate (n - size b0) v := by
  have hold := oa_read hinv h0
  have h := mkOA_post hinv i ((cellAt s.heap x0).data.take n ++ List.replicate (n - (cellAt s.heap x0).data.length) v)
    (getW_some_lt h0)
  refine ⟨_, _, _, by simp only [step, h0], h.1, ?_, h.2.trans ?_⟩
  · show List.length (_ ++ _) = n
    rw [List.length_append, List.length_take, List.length_replicate]; omega
  · rw [hold.2, size, hold.1]

/-- reset(): empty. -/
theorem oa_reset_post (s : State) (hinv : Inv s) (i : Nat) (b0 : Base) (x0 : Nat) (h0 : getW s i = some (.oa b0 x0)) :
    ∃ s1 b x, step Cfg.fixed s (.oaReset i) = some s1 ∧ getW s1 i = some (.oa b x) ∧ size b = 0 ∧ b.ptr = none :=
  ⟨_, _, _, by simp [step, h0, isOA], (mkOA_post hinv i [] (getW_some_lt h0)).1, rfl, rfl⟩

/-- copy construction of an OwnedArray into another slot: the copy has the original's contents in storage of
    its own (different from the original's), so by `owning_stable` it survives whatever happens to the original. -/
theorem oa_copy_post (s : State) (hinv : Inv s) (i j : Nat) (b0 : Base) (x0 : Nat)
    (hj : getW s j = some (.oa b0 x0)) (hi : i < s.ws.length) :
    ∃ s1 b x, step Cfg.fixed s (.copy i j false) = some s1 ∧ getW s1 i = some (.oa b x) ∧ x ≠ x0 ∧
      size b = size b0 ∧ b.read s1.heap = b0.read s.heap := by
  have hold := oa_read hinv hj
  have h := mkOA_post hinv i (cellAt s.heap x0).data hi
  exact ⟨_, _, _, by simp [step, hj, copyOf, Cfg.fixed], h.1, Nat.ne_of_gt (liveAt_lt (hinv.ok j _ hj).1),
    hold.1.symm, h.2.trans hold.2.symm⟩

/-- FixedArrayView(fa, offset, count) reads exactly `count` elements of the FixedArray starting at `offset`
    and holds a share of the FixedArray's allocation. -/
theorem fav_new_post (s : State) (hinv : Inv s) (i j off cnt : Nat) (b0 : Base) (arr : Option Nat)
    (hj : getW s j = some (.fa b0 arr)) (hle : off + cnt ≤ b0.n) (hi : i < s.ws.length) :
    ∃ s1 b, step Cfg.fixed s (.favNew i j off cnt) = some s1 ∧ getW s1 i = some (.fav b arr) ∧ size b = cnt ∧
      b.read s1.heap = ((b0.read s.heap).drop off).take cnt := by
  have okj := hinv.ok j _ hj
  have ok := mkFAV_ok okj hle
  have f := install_new (made_plain hinv ok rfl) hi
  refine ⟨_, _, by simp [step, hj, hle], f.same, rfl, ?_⟩
  rw [← subrange_reads hle (valid_of_ok okj rfl).1]
  exact read_of_frame ok rfl f

/-! ## non-owning views alias their source exactly -/

/-- view_aliases: an ArrayView made from (buffer `b`)+off, cnt stays as constructed however the history continues
    (as long as its own slot is not targeted): at every later moment it reads exactly the elements that are *then*
    in that range of `a`, the allocation the buffer had at construction (so writes to the source show through, and
    nothing is copied).  Whether `a` is still live, or still the allocation of buffer `b`, is not part of the claim. -/
theorem view_aliases (nb nw : Nat) (hist later : List Op) (i b a off cnt : Nat)
    (hb : getBuf (runR Cfg.fixed nb nw hist) b = some a) (hle : off + cnt ≤ lenAt (runR Cfg.fixed nb nw hist).heap a)
    (hi : i < nw) (hl : ∀ op ∈ later, op.targets i = false) :
    let s2 := runR Cfg.fixed nb nw (later ++ .avSet i (.buf b off cnt) true :: hist)
    ∃ v, getW s2 i = some (.av v) ∧ size v = cnt ∧ v.read s2.heap = ((cellAt s2.heap a).data.drop off).take cnt := by
  intro s2
  have h1 : getW (runR Cfg.fixed nb nw (.avSet i (.buf b off cnt) true :: hist)) i = some (.av (setPtr (some ⟨a, off⟩) cnt)) := by
    simp only [runR, stepT, step, Bool.true_or, ite_true, resolve, hb, hle]
    simp [getW_install, run_ws_length, hi, mkAV]
  refine ⟨_, ((run_ok later (reachable_inv nb nw _)).frame i _ h1 ?_).same, rfl, view_reads _ a off cnt⟩
  rintro ⟨op, hop, s, h⟩
  rcases Op.touches_cases h with h | ⟨_, _, _, _, _, _, _, _, h⟩
  · simp [hl op hop] at h
  · cases h

/-- writing the source buffer changes exactly that element of the source (which the view then reads) -/
theorem buf_set_updates (s : State) (hinv : Inv s) (b a k v : Nat) (hb : getBuf s b = some a) (hk : k < lenAt s.heap a) :
    (cellAt (stepT Cfg.fixed s (.bufSet b k v)).heap a).data = (cellAt s.heap a).data.set k v := by
  simp [stepT, step, hb, hk, cellAt_write]

/-! ## the special members generated before the repairs violate wrapper_valid (witnesses) -/

/-- copy an OwnedArray, destroy the original (most recent operation first) -/
def histCopyDestroy : List Op :=
  [.destroy 0, .copy 1 0 false, .oaSet 0 (.buf 0 0 3) true, .bufNew 0 [1, 2, 3]]

/-- a FixedArrayView onto a FixedArray that is then reassigned -/
def histViewReassign : List Op :=
  [.faSet 0 (.buf 1 0 3) false, .favNew 1 0 1 2, .faSet 0 (.buf 0 0 4) true, .bufNew 1 [7, 8, 9], .bufNew 0 [1, 2, 3, 4]]

/-- With the implicitly generated memberwise copy (`ptr` copied verbatim) the copy in slot 1 dangles after
    the original is destroyed: wrapper_valid is false for the code before the OwnedArray repair. -/
theorem legacy_oa_copy_dangles :
    ∃ w, getW (runR Cfg.legacy 1 2 histCopyDestroy) 1 = some w ∧ w.owning = true ∧
      w.base.valid (runR Cfg.legacy 1 2 histCopyDestroy).heap = false := by
  refine ⟨.oa ⟨some ⟨1, 0⟩, 3⟩ 2, by decide, rfl, by decide⟩

/-- Before the FixedArrayView repair the view only kept the FixedArray *object* alive; reassigning that
    FixedArray frees the allocation the view points into. -/
theorem legacy_fav_dangles :
    ∃ w, getW (runR Cfg.legacy 2 2 histViewReassign) 1 = some w ∧ w.owning = true ∧
      w.base.valid (runR Cfg.legacy 2 2 histViewReassign).heap = false := by
  refine ⟨.fav ⟨some ⟨2, 1⟩, 2⟩ none, by decide, rfl, by decide⟩

/-- the legacy copy already shares storage with its original right after the copy (what the harness reports
    as `sh=`), contradicting owned_storage_unique's consequence that the exposed ranges are disjoint -/
theorem legacy_oa_copy_aliases :
    ∃ b1 x1 b2 x2, getW (runR Cfg.legacy 1 2 histCopyDestroy.tail) 0 = some (.oa b1 x1) ∧
      getW (runR Cfg.legacy 1 2 histCopyDestroy.tail) 1 = some (.oa b2 x2) ∧ b1.ptr = b2.ptr ∧ b1.ptr ≠ none := by
  refine ⟨⟨some ⟨1, 0⟩, 3⟩, 1, ⟨some ⟨1, 0⟩, 3⟩, 2, by decide, by decide, rfl, by decide⟩

/-! ## non-vacuity: the same histories on the code as it is now, and satisfiable hypotheses -/

example : (runR Cfg.fixed 1 2 histCopyDestroy).ws = [none, some (.oa ⟨some ⟨2, 0⟩, 3⟩ 2)] := by decide
example : (W.oa ⟨some ⟨2, 0⟩, 3⟩ 2).base.read (runR Cfg.fixed 1 2 histCopyDestroy).heap = [1, 2, 3] := by decide
example : getW (runR Cfg.fixed 2 2 histViewReassign) 1 = some (.fav ⟨some ⟨2, 1⟩, 2⟩ (some 2)) := by decide
example : (W.fav ⟨some ⟨2, 1⟩, 2⟩ (some 2)).base.read (runR Cfg.fixed 2 2 histViewReassign).heap = [2, 3] := by decide
example : (W.fav ⟨some ⟨2, 1⟩, 2⟩ (some 2)).base.valid (runR Cfg.fixed 2 2 histViewReassign).heap = true := by decide
-- hypotheses of oa_copy_post / oa_resize_post / fav_new_post hold in reachable states
example : getW (runR Cfg.fixed 1 2 (histCopyDestroy.drop 2)) 0 = some (.oa ⟨some ⟨1, 0⟩, 3⟩ 1) := by decide
example : getW (runR Cfg.fixed 2 2 (histViewReassign.drop 2)) 0 = some (.fa ⟨some ⟨2, 0⟩, 4⟩ (some 2)) := by decide
-- a view shows a later write to its source; an OwnedArray made from the same source does not
example :
    let s := runR Cfg.fixed 1 2 [.bufSet 0 1 50, .oaSet 1 (.buf 0 0 3) true, .avSet 0 (.buf 0 0 3) true, .bufNew 0 [1, 2, 3]]
    (getW s 0).map (fun w => w.base.read s.heap) = some [1, 50, 3] ∧
    (getW s 1).map (fun w => w.base.read s.heap) = some [1, 2, 3] := by decide
-- a resize that grows, then at() around the new size
example :
    let s := runR Cfg.fixed 1 1 [.oaResize 0 5 9, .oaSet 0 (.buf 0 1 2) true, .bufNew 0 [1, 2, 3]]
    (getW s 0).map (fun w => (w.base.read s.heap, (at? w.base 4).isSome, (at? w.base 5).isSome)) =
      some ([2, 3, 9, 9, 9], true, false) := by decide
-- DataView over 3 records of 8 bytes, 4-byte field at offset 4
example : DV.read [0,1,2,3,4,5,6,7, 10,11,12,13,14,15,16,17, 20,21,22,23,24,25,26,27] ⟨4, 8⟩ 4 2 = some [24,25,26,27] := by decide
example : iterate ⟨some ⟨0, 0⟩, 3⟩ 4 = some [0, 1, 2] := by decide
example : iterate ⟨some ⟨0, 0⟩, 3⟩ 2 = none := by decide

end RkVerif.C11
