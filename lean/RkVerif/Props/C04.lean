/-
Property C04 — every vec_t operator is the component-wise lifting of its scalar definition.
GENERATED by tools/gen_c04.py from its hand-written spec table (operation family ↦ scalar definition per
component); the definitions the theorems are about are regenerated from vec.h on every run
(RkVerif/Gen/C04.lean for the float family, RkVerif/Gen/C04I.lean for the integer-only operators).
The scalar type is an arbitrary `[CNum α]`: nothing about the scalar operations is assumed, so each statement
holds for all 10 element types and all values (wrap-around, infinities, NaN included), given that the
template code is the same for every element type (checked per element type by the correspondence harness).
Each theorem carries the name of the wrapper it is about (prefix `i_` in the integer family): inside this
namespace, once a theorem is declared, the bare name is the theorem and `Gen.C04.v2_neg` the definition.
The `padding_` lane of a `Vec3a` result is left open: no theorem mentions it.
-/
import RkVerif.Gen.C04
import RkVerif.Gen.C04I

namespace RkVerif.C04
open RkVerif
variable {α : Type} [CNum α]

section float_family
open RkVerif.Gen.C04

theorem v2_neg (a : Vec2 α) :
    (v2_neg a).x = -a.x ∧ (v2_neg a).y = -a.y := by
  simp only [gen_simp, and_self]

theorem v2_pos (a : Vec2 α) :
    (v2_pos a).x = a.x ∧ (v2_pos a).y = a.y := by
  simp only [gen_simp, and_self]

theorem v2_rcp (a : Vec2 α) :
    (v2_rcp a).x = s_rcp a.x ∧ (v2_rcp a).y = s_rcp a.y := by
  simp only [gen_simp, and_self]

theorem v2_rcp_safe (a : Vec2 α) :
    (v2_rcp_safe a).x = s_rcp_safe a.x ∧ (v2_rcp_safe a).y = s_rcp_safe a.y := by
  simp only [gen_simp, and_self]

theorem v2_abs (a : Vec2 α) :
    (v2_abs a).x = CNum.abs a.x ∧ (v2_abs a).y = CNum.abs a.y := by
  simp only [gen_simp, and_self]

theorem v2_sin (a : Vec2 α) :
    (v2_sin a).x = CNum.sin a.x ∧ (v2_sin a).y = CNum.sin a.y := by
  simp only [gen_simp, and_self]

theorem v2_cos (a : Vec2 α) :
    (v2_cos a).x = CNum.cos a.x ∧ (v2_cos a).y = CNum.cos a.y := by
  simp only [gen_simp, and_self]

theorem v2_add (a b : Vec2 α) :
    (v2_add a b).x = a.x + b.x ∧ (v2_add a b).y = a.y + b.y := by
  simp only [gen_simp, and_self]

theorem v2_add_vs (a : Vec2 α) (s : α) :
    (v2_add_vs a s).x = a.x + s ∧ (v2_add_vs a s).y = a.y + s := by
  simp only [gen_simp, and_self]

theorem v2_add_sv (s : α) (b : Vec2 α) :
    (v2_add_sv s b).x = s + b.x ∧ (v2_add_sv s b).y = s + b.y := by
  simp only [gen_simp, and_self]

theorem v2_add_assign (a b : Vec2 α) :
    (v2_add_assign a b).x = a.x + b.x ∧ (v2_add_assign a b).y = a.y + b.y := by
  simp only [gen_simp, and_self]

theorem v2_add_assign_s (a : Vec2 α) (s : α) :
    (v2_add_assign_s a s).x = a.x + s ∧ (v2_add_assign_s a s).y = a.y + s := by
  simp only [gen_simp, and_self]

theorem v2_sub (a b : Vec2 α) :
    (v2_sub a b).x = a.x - b.x ∧ (v2_sub a b).y = a.y - b.y := by
  simp only [gen_simp, and_self]

theorem v2_sub_vs (a : Vec2 α) (s : α) :
    (v2_sub_vs a s).x = a.x - s ∧ (v2_sub_vs a s).y = a.y - s := by
  simp only [gen_simp, and_self]

theorem v2_sub_sv (s : α) (b : Vec2 α) :
    (v2_sub_sv s b).x = s - b.x ∧ (v2_sub_sv s b).y = s - b.y := by
  simp only [gen_simp, and_self]

theorem v2_sub_assign (a b : Vec2 α) :
    (v2_sub_assign a b).x = a.x - b.x ∧ (v2_sub_assign a b).y = a.y - b.y := by
  simp only [gen_simp, and_self]

theorem v2_sub_assign_s (a : Vec2 α) (s : α) :
    (v2_sub_assign_s a s).x = a.x - s ∧ (v2_sub_assign_s a s).y = a.y - s := by
  simp only [gen_simp, and_self]

theorem v2_mul (a b : Vec2 α) :
    (v2_mul a b).x = a.x * b.x ∧ (v2_mul a b).y = a.y * b.y := by
  simp only [gen_simp, and_self]

theorem v2_mul_vs (a : Vec2 α) (s : α) :
    (v2_mul_vs a s).x = a.x * s ∧ (v2_mul_vs a s).y = a.y * s := by
  simp only [gen_simp, and_self]

theorem v2_mul_sv (s : α) (b : Vec2 α) :
    (v2_mul_sv s b).x = s * b.x ∧ (v2_mul_sv s b).y = s * b.y := by
  simp only [gen_simp, and_self]

theorem v2_mul_assign (a b : Vec2 α) :
    (v2_mul_assign a b).x = a.x * b.x ∧ (v2_mul_assign a b).y = a.y * b.y := by
  simp only [gen_simp, and_self]

theorem v2_mul_assign_s (a : Vec2 α) (s : α) :
    (v2_mul_assign_s a s).x = a.x * s ∧ (v2_mul_assign_s a s).y = a.y * s := by
  simp only [gen_simp, and_self]

theorem v2_div (a b : Vec2 α) :
    (v2_div a b).x = a.x / b.x ∧ (v2_div a b).y = a.y / b.y := by
  simp only [gen_simp, and_self]

theorem v2_div_vs (a : Vec2 α) (s : α) :
    (v2_div_vs a s).x = a.x / s ∧ (v2_div_vs a s).y = a.y / s := by
  simp only [gen_simp, and_self]

theorem v2_div_sv (s : α) (b : Vec2 α) :
    (v2_div_sv s b).x = s / b.x ∧ (v2_div_sv s b).y = s / b.y := by
  simp only [gen_simp, and_self]

theorem v2_div_assign (a b : Vec2 α) :
    (v2_div_assign a b).x = a.x / b.x ∧ (v2_div_assign a b).y = a.y / b.y := by
  simp only [gen_simp, and_self]

theorem v2_div_assign_s (a : Vec2 α) (s : α) :
    (v2_div_assign_s a s).x = a.x / s ∧ (v2_div_assign_s a s).y = a.y / s := by
  simp only [gen_simp, and_self]

theorem v2_min (a b : Vec2 α) :
    (v2_min a b).x = min a.x b.x ∧ (v2_min a b).y = min a.y b.y := by
  simp only [gen_simp, and_self]

theorem v2_max (a b : Vec2 α) :
    (v2_max a b).x = max a.x b.x ∧ (v2_max a b).y = max a.y b.y := by
  simp only [gen_simp, and_self]

theorem v2_eq (a b : Vec2 α) : v2_eq a b = (CNum.beq a.x b.x && CNum.beq a.y b.y) := by
  simp only [gen_simp]

theorem v2_ne (a b : Vec2 α) : v2_ne a b = (!(CNum.beq a.x b.x && CNum.beq a.y b.y)) := by
  simp only [gen_simp]

theorem v2_anyLessThan (a b : Vec2 α) : v2_anyLessThan a b = (decide (a.x < b.x) || decide (a.y < b.y)) := by
  simp only [gen_simp]

theorem v2_dot (a b : Vec2 α) : v2_dot a b = a.x * b.x + a.y * b.y := by
  simp only [gen_simp]

theorem v2_length (a : Vec2 α) : v2_length a = CNum.sqrt (a.x * a.x + a.y * a.y) := by
  simp only [gen_simp]

theorem v2_normalize (a : Vec2 α) :
    (v2_normalize a).x = a.x * s_rsqrt (a.x * a.x + a.y * a.y) ∧ (v2_normalize a).y = a.y * s_rsqrt (a.x * a.x + a.y * a.y) := by
  simp only [gen_simp, and_self]

theorem v2_safe_normalize (a : Vec2 α) :
    (v2_safe_normalize a).x = a.x * s_rsqrt (max CNum.ulp (a.x * a.x + a.y * a.y)) ∧ (v2_safe_normalize a).y = a.y * s_rsqrt (max CNum.ulp (a.x * a.x + a.y * a.y)) := by
  simp only [gen_simp, and_self]

theorem v2_reduce_add (a : Vec2 α) : v2_reduce_add a = a.x + a.y := by
  simp only [gen_simp]

theorem v2_reduce_mul (a : Vec2 α) : v2_reduce_mul a = a.x * a.y := by
  simp only [gen_simp]

theorem v2_reduce_min (a : Vec2 α) : v2_reduce_min a = min a.x a.y := by
  simp only [gen_simp]

theorem v2_reduce_max (a : Vec2 α) : v2_reduce_max a = max a.x a.y := by
  simp only [gen_simp]

theorem v2_sum (a : Vec2 α) : v2_sum a = a.x + a.y := by
  simp only [gen_simp]

theorem v2_product (a : Vec2 α) : v2_product a = a.x * a.y := by
  simp only [gen_simp]

theorem v2_broadcast (s : α) :
    ((v2_broadcast s : Vec2 α)).x = s ∧ ((v2_broadcast s : Vec2 α)).y = s := by
  simp only [gen_simp, and_self]

theorem v2_from_components (x y : α) :
    ((v2_from_components x y : Vec2 α)).x = x ∧ ((v2_from_components x y : Vec2 α)).y = y := by
  simp only [gen_simp, and_self]

theorem v3_neg (a : Vec3 α) :
    (v3_neg a).x = -a.x ∧ (v3_neg a).y = -a.y ∧ (v3_neg a).z = -a.z := by
  simp only [gen_simp, and_self]

theorem v3_pos (a : Vec3 α) :
    (v3_pos a).x = a.x ∧ (v3_pos a).y = a.y ∧ (v3_pos a).z = a.z := by
  simp only [gen_simp, and_self]

theorem v3_rcp (a : Vec3 α) :
    (v3_rcp a).x = s_rcp a.x ∧ (v3_rcp a).y = s_rcp a.y ∧ (v3_rcp a).z = s_rcp a.z := by
  simp only [gen_simp, and_self]

theorem v3_rcp_safe (a : Vec3 α) :
    (v3_rcp_safe a).x = s_rcp_safe a.x ∧ (v3_rcp_safe a).y = s_rcp_safe a.y ∧ (v3_rcp_safe a).z = s_rcp_safe a.z := by
  simp only [gen_simp, and_self]

theorem v3_abs (a : Vec3 α) :
    (v3_abs a).x = CNum.abs a.x ∧ (v3_abs a).y = CNum.abs a.y ∧ (v3_abs a).z = CNum.abs a.z := by
  simp only [gen_simp, and_self]

theorem v3_sin (a : Vec3 α) :
    (v3_sin a).x = CNum.sin a.x ∧ (v3_sin a).y = CNum.sin a.y ∧ (v3_sin a).z = CNum.sin a.z := by
  simp only [gen_simp, and_self]

theorem v3_cos (a : Vec3 α) :
    (v3_cos a).x = CNum.cos a.x ∧ (v3_cos a).y = CNum.cos a.y ∧ (v3_cos a).z = CNum.cos a.z := by
  simp only [gen_simp, and_self]

theorem v3_add (a b : Vec3 α) :
    (v3_add a b).x = a.x + b.x ∧ (v3_add a b).y = a.y + b.y ∧ (v3_add a b).z = a.z + b.z := by
  simp only [gen_simp, and_self]

theorem v3_add_vs (a : Vec3 α) (s : α) :
    (v3_add_vs a s).x = a.x + s ∧ (v3_add_vs a s).y = a.y + s ∧ (v3_add_vs a s).z = a.z + s := by
  simp only [gen_simp, and_self]

theorem v3_add_sv (s : α) (b : Vec3 α) :
    (v3_add_sv s b).x = s + b.x ∧ (v3_add_sv s b).y = s + b.y ∧ (v3_add_sv s b).z = s + b.z := by
  simp only [gen_simp, and_self]

theorem v3_add_assign (a b : Vec3 α) :
    (v3_add_assign a b).x = a.x + b.x ∧ (v3_add_assign a b).y = a.y + b.y ∧ (v3_add_assign a b).z = a.z + b.z := by
  simp only [gen_simp, and_self]

theorem v3_add_assign_s (a : Vec3 α) (s : α) :
    (v3_add_assign_s a s).x = a.x + s ∧ (v3_add_assign_s a s).y = a.y + s ∧ (v3_add_assign_s a s).z = a.z + s := by
  simp only [gen_simp, and_self]

theorem v3_sub (a b : Vec3 α) :
    (v3_sub a b).x = a.x - b.x ∧ (v3_sub a b).y = a.y - b.y ∧ (v3_sub a b).z = a.z - b.z := by
  simp only [gen_simp, and_self]

theorem v3_sub_vs (a : Vec3 α) (s : α) :
    (v3_sub_vs a s).x = a.x - s ∧ (v3_sub_vs a s).y = a.y - s ∧ (v3_sub_vs a s).z = a.z - s := by
  simp only [gen_simp, and_self]

theorem v3_sub_sv (s : α) (b : Vec3 α) :
    (v3_sub_sv s b).x = s - b.x ∧ (v3_sub_sv s b).y = s - b.y ∧ (v3_sub_sv s b).z = s - b.z := by
  simp only [gen_simp, and_self]

theorem v3_sub_assign (a b : Vec3 α) :
    (v3_sub_assign a b).x = a.x - b.x ∧ (v3_sub_assign a b).y = a.y - b.y ∧ (v3_sub_assign a b).z = a.z - b.z := by
  simp only [gen_simp, and_self]

theorem v3_sub_assign_s (a : Vec3 α) (s : α) :
    (v3_sub_assign_s a s).x = a.x - s ∧ (v3_sub_assign_s a s).y = a.y - s ∧ (v3_sub_assign_s a s).z = a.z - s := by
  simp only [gen_simp, and_self]

theorem v3_mul (a b : Vec3 α) :
    (v3_mul a b).x = a.x * b.x ∧ (v3_mul a b).y = a.y * b.y ∧ (v3_mul a b).z = a.z * b.z := by
  simp only [gen_simp, and_self]

theorem v3_mul_vs (a : Vec3 α) (s : α) :
    (v3_mul_vs a s).x = a.x * s ∧ (v3_mul_vs a s).y = a.y * s ∧ (v3_mul_vs a s).z = a.z * s := by
  simp only [gen_simp, and_self]

theorem v3_mul_sv (s : α) (b : Vec3 α) :
    (v3_mul_sv s b).x = s * b.x ∧ (v3_mul_sv s b).y = s * b.y ∧ (v3_mul_sv s b).z = s * b.z := by
  simp only [gen_simp, and_self]

theorem v3_mul_assign (a b : Vec3 α) :
    (v3_mul_assign a b).x = a.x * b.x ∧ (v3_mul_assign a b).y = a.y * b.y ∧ (v3_mul_assign a b).z = a.z * b.z := by
  simp only [gen_simp, and_self]

theorem v3_mul_assign_s (a : Vec3 α) (s : α) :
    (v3_mul_assign_s a s).x = a.x * s ∧ (v3_mul_assign_s a s).y = a.y * s ∧ (v3_mul_assign_s a s).z = a.z * s := by
  simp only [gen_simp, and_self]

theorem v3_div (a b : Vec3 α) :
    (v3_div a b).x = a.x / b.x ∧ (v3_div a b).y = a.y / b.y ∧ (v3_div a b).z = a.z / b.z := by
  simp only [gen_simp, and_self]

theorem v3_div_vs (a : Vec3 α) (s : α) :
    (v3_div_vs a s).x = a.x / s ∧ (v3_div_vs a s).y = a.y / s ∧ (v3_div_vs a s).z = a.z / s := by
  simp only [gen_simp, and_self]

theorem v3_div_sv (s : α) (b : Vec3 α) :
    (v3_div_sv s b).x = s / b.x ∧ (v3_div_sv s b).y = s / b.y ∧ (v3_div_sv s b).z = s / b.z := by
  simp only [gen_simp, and_self]

theorem v3_div_assign (a b : Vec3 α) :
    (v3_div_assign a b).x = a.x / b.x ∧ (v3_div_assign a b).y = a.y / b.y ∧ (v3_div_assign a b).z = a.z / b.z := by
  simp only [gen_simp, and_self]

theorem v3_div_assign_s (a : Vec3 α) (s : α) :
    (v3_div_assign_s a s).x = a.x / s ∧ (v3_div_assign_s a s).y = a.y / s ∧ (v3_div_assign_s a s).z = a.z / s := by
  simp only [gen_simp, and_self]

theorem v3_min (a b : Vec3 α) :
    (v3_min a b).x = min a.x b.x ∧ (v3_min a b).y = min a.y b.y ∧ (v3_min a b).z = min a.z b.z := by
  simp only [gen_simp, and_self]

theorem v3_max (a b : Vec3 α) :
    (v3_max a b).x = max a.x b.x ∧ (v3_max a b).y = max a.y b.y ∧ (v3_max a b).z = max a.z b.z := by
  simp only [gen_simp, and_self]

theorem v3_eq (a b : Vec3 α) : v3_eq a b = (CNum.beq a.x b.x && CNum.beq a.y b.y && CNum.beq a.z b.z) := by
  simp only [gen_simp]

theorem v3_ne (a b : Vec3 α) : v3_ne a b = (!(CNum.beq a.x b.x && CNum.beq a.y b.y && CNum.beq a.z b.z)) := by
  simp only [gen_simp]

theorem v3_anyLessThan (a b : Vec3 α) : v3_anyLessThan a b = (decide (a.x < b.x) || decide (a.y < b.y) || decide (a.z < b.z)) := by
  simp only [gen_simp]

theorem v3_dot (a b : Vec3 α) : v3_dot a b = a.x * b.x + a.y * b.y + a.z * b.z := by
  simp only [gen_simp]

theorem v3_length (a : Vec3 α) : v3_length a = CNum.sqrt (a.x * a.x + a.y * a.y + a.z * a.z) := by
  simp only [gen_simp]

theorem v3_normalize (a : Vec3 α) :
    (v3_normalize a).x = a.x * s_rsqrt (a.x * a.x + a.y * a.y + a.z * a.z) ∧ (v3_normalize a).y = a.y * s_rsqrt (a.x * a.x + a.y * a.y + a.z * a.z) ∧ (v3_normalize a).z = a.z * s_rsqrt (a.x * a.x + a.y * a.y + a.z * a.z) := by
  simp only [gen_simp, and_self]

theorem v3_safe_normalize (a : Vec3 α) :
    (v3_safe_normalize a).x = a.x * s_rsqrt (max CNum.ulp (a.x * a.x + a.y * a.y + a.z * a.z)) ∧ (v3_safe_normalize a).y = a.y * s_rsqrt (max CNum.ulp (a.x * a.x + a.y * a.y + a.z * a.z)) ∧ (v3_safe_normalize a).z = a.z * s_rsqrt (max CNum.ulp (a.x * a.x + a.y * a.y + a.z * a.z)) := by
  simp only [gen_simp, and_self]

theorem v3_reduce_add (a : Vec3 α) : v3_reduce_add a = a.x + a.y + a.z := by
  simp only [gen_simp]

theorem v3_reduce_mul (a : Vec3 α) : v3_reduce_mul a = a.x * a.y * a.z := by
  simp only [gen_simp]

theorem v3_reduce_min (a : Vec3 α) : v3_reduce_min a = min (min a.x a.y) a.z := by
  simp only [gen_simp]

theorem v3_reduce_max (a : Vec3 α) : v3_reduce_max a = max (max a.x a.y) a.z := by
  simp only [gen_simp]

theorem v3_sum (a : Vec3 α) : v3_sum a = a.x + a.y + a.z := by
  simp only [gen_simp]

theorem v3_product (a : Vec3 α) : v3_product a = a.x * a.y * a.z := by
  simp only [gen_simp]

theorem v3_broadcast (s : α) :
    ((v3_broadcast s : Vec3 α)).x = s ∧ ((v3_broadcast s : Vec3 α)).y = s ∧ ((v3_broadcast s : Vec3 α)).z = s := by
  simp only [gen_simp, and_self]

theorem v3_from_components (x y z : α) :
    ((v3_from_components x y z : Vec3 α)).x = x ∧ ((v3_from_components x y z : Vec3 α)).y = y ∧ ((v3_from_components x y z : Vec3 α)).z = z := by
  simp only [gen_simp, and_self]

theorem v3a_neg (a : Vec3a α) :
    (v3a_neg a).x = -a.x ∧ (v3a_neg a).y = -a.y ∧ (v3a_neg a).z = -a.z := by
  simp only [gen_simp, and_self]

theorem v3a_pos (a : Vec3a α) :
    (v3a_pos a).x = a.x ∧ (v3a_pos a).y = a.y ∧ (v3a_pos a).z = a.z := by
  simp only [gen_simp, and_self]

theorem v3a_rcp (a : Vec3a α) :
    (v3a_rcp a).x = s_rcp a.x ∧ (v3a_rcp a).y = s_rcp a.y ∧ (v3a_rcp a).z = s_rcp a.z := by
  simp only [gen_simp, and_self]

theorem v3a_rcp_safe (a : Vec3a α) :
    (v3a_rcp_safe a).x = s_rcp_safe a.x ∧ (v3a_rcp_safe a).y = s_rcp_safe a.y ∧ (v3a_rcp_safe a).z = s_rcp_safe a.z := by
  simp only [gen_simp, and_self]

theorem v3a_abs (a : Vec3a α) :
    (v3a_abs a).x = CNum.abs a.x ∧ (v3a_abs a).y = CNum.abs a.y ∧ (v3a_abs a).z = CNum.abs a.z := by
  simp only [gen_simp, and_self]

theorem v3a_sin (a : Vec3a α) :
    (v3a_sin a).x = CNum.sin a.x ∧ (v3a_sin a).y = CNum.sin a.y ∧ (v3a_sin a).z = CNum.sin a.z := by
  simp only [gen_simp, and_self]

theorem v3a_cos (a : Vec3a α) :
    (v3a_cos a).x = CNum.cos a.x ∧ (v3a_cos a).y = CNum.cos a.y ∧ (v3a_cos a).z = CNum.cos a.z := by
  simp only [gen_simp, and_self]

theorem v3a_add (a b : Vec3a α) :
    (v3a_add a b).x = a.x + b.x ∧ (v3a_add a b).y = a.y + b.y ∧ (v3a_add a b).z = a.z + b.z := by
  simp only [gen_simp, and_self]

theorem v3a_add_vs (a : Vec3a α) (s : α) :
    (v3a_add_vs a s).x = a.x + s ∧ (v3a_add_vs a s).y = a.y + s ∧ (v3a_add_vs a s).z = a.z + s := by
  simp only [gen_simp, and_self]

theorem v3a_add_sv (s : α) (b : Vec3a α) :
    (v3a_add_sv s b).x = s + b.x ∧ (v3a_add_sv s b).y = s + b.y ∧ (v3a_add_sv s b).z = s + b.z := by
  simp only [gen_simp, and_self]

theorem v3a_add_assign (a b : Vec3a α) :
    (v3a_add_assign a b).x = a.x + b.x ∧ (v3a_add_assign a b).y = a.y + b.y ∧ (v3a_add_assign a b).z = a.z + b.z := by
  simp only [gen_simp, and_self]

theorem v3a_add_assign_s (a : Vec3a α) (s : α) :
    (v3a_add_assign_s a s).x = a.x + s ∧ (v3a_add_assign_s a s).y = a.y + s ∧ (v3a_add_assign_s a s).z = a.z + s := by
  simp only [gen_simp, and_self]

theorem v3a_sub (a b : Vec3a α) :
    (v3a_sub a b).x = a.x - b.x ∧ (v3a_sub a b).y = a.y - b.y ∧ (v3a_sub a b).z = a.z - b.z := by
  simp only [gen_simp, and_self]

theorem v3a_sub_vs (a : Vec3a α) (s : α) :
    (v3a_sub_vs a s).x = a.x - s ∧ (v3a_sub_vs a s).y = a.y - s ∧ (v3a_sub_vs a s).z = a.z - s := by
  simp only [gen_simp, and_self]

theorem v3a_sub_sv (s : α) (b : Vec3a α) :
    (v3a_sub_sv s b).x = s - b.x ∧ (v3a_sub_sv s b).y = s - b.y ∧ (v3a_sub_sv s b).z = s - b.z := by
  simp only [gen_simp, and_self]

theorem v3a_sub_assign (a b : Vec3a α) :
    (v3a_sub_assign a b).x = a.x - b.x ∧ (v3a_sub_assign a b).y = a.y - b.y ∧ (v3a_sub_assign a b).z = a.z - b.z := by
  simp only [gen_simp, and_self]

theorem v3a_sub_assign_s (a : Vec3a α) (s : α) :
    (v3a_sub_assign_s a s).x = a.x - s ∧ (v3a_sub_assign_s a s).y = a.y - s ∧ (v3a_sub_assign_s a s).z = a.z - s := by
  simp only [gen_simp, and_self]

theorem v3a_mul (a b : Vec3a α) :
    (v3a_mul a b).x = a.x * b.x ∧ (v3a_mul a b).y = a.y * b.y ∧ (v3a_mul a b).z = a.z * b.z := by
  simp only [gen_simp, and_self]

theorem v3a_mul_vs (a : Vec3a α) (s : α) :
    (v3a_mul_vs a s).x = a.x * s ∧ (v3a_mul_vs a s).y = a.y * s ∧ (v3a_mul_vs a s).z = a.z * s := by
  simp only [gen_simp, and_self]

theorem v3a_mul_sv (s : α) (b : Vec3a α) :
    (v3a_mul_sv s b).x = s * b.x ∧ (v3a_mul_sv s b).y = s * b.y ∧ (v3a_mul_sv s b).z = s * b.z := by
  simp only [gen_simp, and_self]

theorem v3a_mul_assign (a b : Vec3a α) :
    (v3a_mul_assign a b).x = a.x * b.x ∧ (v3a_mul_assign a b).y = a.y * b.y ∧ (v3a_mul_assign a b).z = a.z * b.z := by
  simp only [gen_simp, and_self]

theorem v3a_mul_assign_s (a : Vec3a α) (s : α) :
    (v3a_mul_assign_s a s).x = a.x * s ∧ (v3a_mul_assign_s a s).y = a.y * s ∧ (v3a_mul_assign_s a s).z = a.z * s := by
  simp only [gen_simp, and_self]

theorem v3a_div (a b : Vec3a α) :
    (v3a_div a b).x = a.x / b.x ∧ (v3a_div a b).y = a.y / b.y ∧ (v3a_div a b).z = a.z / b.z := by
  simp only [gen_simp, and_self]

theorem v3a_div_vs (a : Vec3a α) (s : α) :
    (v3a_div_vs a s).x = a.x / s ∧ (v3a_div_vs a s).y = a.y / s ∧ (v3a_div_vs a s).z = a.z / s := by
  simp only [gen_simp, and_self]

theorem v3a_div_sv (s : α) (b : Vec3a α) :
    (v3a_div_sv s b).x = s / b.x ∧ (v3a_div_sv s b).y = s / b.y ∧ (v3a_div_sv s b).z = s / b.z := by
  simp only [gen_simp, and_self]

theorem v3a_div_assign (a b : Vec3a α) :
    (v3a_div_assign a b).x = a.x / b.x ∧ (v3a_div_assign a b).y = a.y / b.y ∧ (v3a_div_assign a b).z = a.z / b.z := by
  simp only [gen_simp, and_self]

theorem v3a_div_assign_s (a : Vec3a α) (s : α) :
    (v3a_div_assign_s a s).x = a.x / s ∧ (v3a_div_assign_s a s).y = a.y / s ∧ (v3a_div_assign_s a s).z = a.z / s := by
  simp only [gen_simp, and_self]

theorem v3a_min (a b : Vec3a α) :
    (v3a_min a b).x = min a.x b.x ∧ (v3a_min a b).y = min a.y b.y ∧ (v3a_min a b).z = min a.z b.z := by
  simp only [gen_simp, and_self]

theorem v3a_max (a b : Vec3a α) :
    (v3a_max a b).x = max a.x b.x ∧ (v3a_max a b).y = max a.y b.y ∧ (v3a_max a b).z = max a.z b.z := by
  simp only [gen_simp, and_self]

theorem v3a_eq (a b : Vec3a α) : v3a_eq a b = (CNum.beq a.x b.x && CNum.beq a.y b.y && CNum.beq a.z b.z) := by
  simp only [gen_simp]

theorem v3a_ne (a b : Vec3a α) : v3a_ne a b = (!(CNum.beq a.x b.x && CNum.beq a.y b.y && CNum.beq a.z b.z)) := by
  simp only [gen_simp]

theorem v3a_anyLessThan (a b : Vec3a α) : v3a_anyLessThan a b = (decide (a.x < b.x) || decide (a.y < b.y) || decide (a.z < b.z)) := by
  simp only [gen_simp]

theorem v3a_dot (a b : Vec3a α) : v3a_dot a b = a.x * b.x + a.y * b.y + a.z * b.z := by
  simp only [gen_simp]

theorem v3a_length (a : Vec3a α) : v3a_length a = CNum.sqrt (a.x * a.x + a.y * a.y + a.z * a.z) := by
  simp only [gen_simp]

theorem v3a_normalize (a : Vec3a α) :
    (v3a_normalize a).x = a.x * s_rsqrt (a.x * a.x + a.y * a.y + a.z * a.z) ∧ (v3a_normalize a).y = a.y * s_rsqrt (a.x * a.x + a.y * a.y + a.z * a.z) ∧ (v3a_normalize a).z = a.z * s_rsqrt (a.x * a.x + a.y * a.y + a.z * a.z) := by
  simp only [gen_simp, and_self]

theorem v3a_safe_normalize (a : Vec3a α) :
    (v3a_safe_normalize a).x = a.x * s_rsqrt (max CNum.ulp (a.x * a.x + a.y * a.y + a.z * a.z)) ∧ (v3a_safe_normalize a).y = a.y * s_rsqrt (max CNum.ulp (a.x * a.x + a.y * a.y + a.z * a.z)) ∧ (v3a_safe_normalize a).z = a.z * s_rsqrt (max CNum.ulp (a.x * a.x + a.y * a.y + a.z * a.z)) := by
  simp only [gen_simp, and_self]

theorem v3a_reduce_add (a : Vec3a α) : v3a_reduce_add a = a.x + a.y + a.z := by
  simp only [gen_simp]

theorem v3a_reduce_mul (a : Vec3a α) : v3a_reduce_mul a = a.x * a.y * a.z := by
  simp only [gen_simp]

theorem v3a_reduce_min (a : Vec3a α) : v3a_reduce_min a = min (min a.x a.y) a.z := by
  simp only [gen_simp]

theorem v3a_reduce_max (a : Vec3a α) : v3a_reduce_max a = max (max a.x a.y) a.z := by
  simp only [gen_simp]

theorem v3a_sum (a : Vec3a α) : v3a_sum a = a.x + a.y + a.z := by
  simp only [gen_simp]

theorem v3a_product (a : Vec3a α) : v3a_product a = a.x * a.y * a.z := by
  simp only [gen_simp]

theorem v3a_broadcast (s : α) :
    ((v3a_broadcast s : Vec3a α)).x = s ∧ ((v3a_broadcast s : Vec3a α)).y = s ∧ ((v3a_broadcast s : Vec3a α)).z = s := by
  simp only [gen_simp, and_self]

theorem v3a_from_components (x y z : α) :
    ((v3a_from_components x y z : Vec3a α)).x = x ∧ ((v3a_from_components x y z : Vec3a α)).y = y ∧ ((v3a_from_components x y z : Vec3a α)).z = z := by
  simp only [gen_simp, and_self]

theorem v4_neg (a : Vec4 α) :
    (v4_neg a).x = -a.x ∧ (v4_neg a).y = -a.y ∧ (v4_neg a).z = -a.z ∧ (v4_neg a).w = -a.w := by
  simp only [gen_simp, and_self]

theorem v4_pos (a : Vec4 α) :
    (v4_pos a).x = a.x ∧ (v4_pos a).y = a.y ∧ (v4_pos a).z = a.z ∧ (v4_pos a).w = a.w := by
  simp only [gen_simp, and_self]

theorem v4_rcp (a : Vec4 α) :
    (v4_rcp a).x = s_rcp a.x ∧ (v4_rcp a).y = s_rcp a.y ∧ (v4_rcp a).z = s_rcp a.z ∧ (v4_rcp a).w = s_rcp a.w := by
  simp only [gen_simp, and_self]

theorem v4_rcp_safe (a : Vec4 α) :
    (v4_rcp_safe a).x = s_rcp_safe a.x ∧ (v4_rcp_safe a).y = s_rcp_safe a.y ∧ (v4_rcp_safe a).z = s_rcp_safe a.z ∧ (v4_rcp_safe a).w = s_rcp_safe a.w := by
  simp only [gen_simp, and_self]

theorem v4_abs (a : Vec4 α) :
    (v4_abs a).x = CNum.abs a.x ∧ (v4_abs a).y = CNum.abs a.y ∧ (v4_abs a).z = CNum.abs a.z ∧ (v4_abs a).w = CNum.abs a.w := by
  simp only [gen_simp, and_self]

theorem v4_sin (a : Vec4 α) :
    (v4_sin a).x = CNum.sin a.x ∧ (v4_sin a).y = CNum.sin a.y ∧ (v4_sin a).z = CNum.sin a.z ∧ (v4_sin a).w = CNum.sin a.w := by
  simp only [gen_simp, and_self]

theorem v4_cos (a : Vec4 α) :
    (v4_cos a).x = CNum.cos a.x ∧ (v4_cos a).y = CNum.cos a.y ∧ (v4_cos a).z = CNum.cos a.z ∧ (v4_cos a).w = CNum.cos a.w := by
  simp only [gen_simp, and_self]

theorem v4_add (a b : Vec4 α) :
    (v4_add a b).x = a.x + b.x ∧ (v4_add a b).y = a.y + b.y ∧ (v4_add a b).z = a.z + b.z ∧ (v4_add a b).w = a.w + b.w := by
  simp only [gen_simp, and_self]

theorem v4_add_vs (a : Vec4 α) (s : α) :
    (v4_add_vs a s).x = a.x + s ∧ (v4_add_vs a s).y = a.y + s ∧ (v4_add_vs a s).z = a.z + s ∧ (v4_add_vs a s).w = a.w + s := by
  simp only [gen_simp, and_self]

theorem v4_add_sv (s : α) (b : Vec4 α) :
    (v4_add_sv s b).x = s + b.x ∧ (v4_add_sv s b).y = s + b.y ∧ (v4_add_sv s b).z = s + b.z ∧ (v4_add_sv s b).w = s + b.w := by
  simp only [gen_simp, and_self]

theorem v4_add_assign (a b : Vec4 α) :
    (v4_add_assign a b).x = a.x + b.x ∧ (v4_add_assign a b).y = a.y + b.y ∧ (v4_add_assign a b).z = a.z + b.z ∧ (v4_add_assign a b).w = a.w + b.w := by
  simp only [gen_simp, and_self]

theorem v4_add_assign_s (a : Vec4 α) (s : α) :
    (v4_add_assign_s a s).x = a.x + s ∧ (v4_add_assign_s a s).y = a.y + s ∧ (v4_add_assign_s a s).z = a.z + s ∧ (v4_add_assign_s a s).w = a.w + s := by
  simp only [gen_simp, and_self]

theorem v4_sub (a b : Vec4 α) :
    (v4_sub a b).x = a.x - b.x ∧ (v4_sub a b).y = a.y - b.y ∧ (v4_sub a b).z = a.z - b.z ∧ (v4_sub a b).w = a.w - b.w := by
  simp only [gen_simp, and_self]

theorem v4_sub_vs (a : Vec4 α) (s : α) :
    (v4_sub_vs a s).x = a.x - s ∧ (v4_sub_vs a s).y = a.y - s ∧ (v4_sub_vs a s).z = a.z - s ∧ (v4_sub_vs a s).w = a.w - s := by
  simp only [gen_simp, and_self]

theorem v4_sub_sv (s : α) (b : Vec4 α) :
    (v4_sub_sv s b).x = s - b.x ∧ (v4_sub_sv s b).y = s - b.y ∧ (v4_sub_sv s b).z = s - b.z ∧ (v4_sub_sv s b).w = s - b.w := by
  simp only [gen_simp, and_self]

theorem v4_sub_assign (a b : Vec4 α) :
    (v4_sub_assign a b).x = a.x - b.x ∧ (v4_sub_assign a b).y = a.y - b.y ∧ (v4_sub_assign a b).z = a.z - b.z ∧ (v4_sub_assign a b).w = a.w - b.w := by
  simp only [gen_simp, and_self]

theorem v4_sub_assign_s (a : Vec4 α) (s : α) :
    (v4_sub_assign_s a s).x = a.x - s ∧ (v4_sub_assign_s a s).y = a.y - s ∧ (v4_sub_assign_s a s).z = a.z - s ∧ (v4_sub_assign_s a s).w = a.w - s := by
  simp only [gen_simp, and_self]

theorem v4_mul (a b : Vec4 α) :
    (v4_mul a b).x = a.x * b.x ∧ (v4_mul a b).y = a.y * b.y ∧ (v4_mul a b).z = a.z * b.z ∧ (v4_mul a b).w = a.w * b.w := by
  simp only [gen_simp, and_self]

theorem v4_mul_vs (a : Vec4 α) (s : α) :
    (v4_mul_vs a s).x = a.x * s ∧ (v4_mul_vs a s).y = a.y * s ∧ (v4_mul_vs a s).z = a.z * s ∧ (v4_mul_vs a s).w = a.w * s := by
  simp only [gen_simp, and_self]

theorem v4_mul_sv (s : α) (b : Vec4 α) :
    (v4_mul_sv s b).x = s * b.x ∧ (v4_mul_sv s b).y = s * b.y ∧ (v4_mul_sv s b).z = s * b.z ∧ (v4_mul_sv s b).w = s * b.w := by
  simp only [gen_simp, and_self]

theorem v4_mul_assign (a b : Vec4 α) :
    (v4_mul_assign a b).x = a.x * b.x ∧ (v4_mul_assign a b).y = a.y * b.y ∧ (v4_mul_assign a b).z = a.z * b.z ∧ (v4_mul_assign a b).w = a.w * b.w := by
  simp only [gen_simp, and_self]

theorem v4_mul_assign_s (a : Vec4 α) (s : α) :
    (v4_mul_assign_s a s).x = a.x * s ∧ (v4_mul_assign_s a s).y = a.y * s ∧ (v4_mul_assign_s a s).z = a.z * s ∧ (v4_mul_assign_s a s).w = a.w * s := by
  simp only [gen_simp, and_self]

theorem v4_div (a b : Vec4 α) :
    (v4_div a b).x = a.x / b.x ∧ (v4_div a b).y = a.y / b.y ∧ (v4_div a b).z = a.z / b.z ∧ (v4_div a b).w = a.w / b.w := by
  simp only [gen_simp, and_self]

theorem v4_div_vs (a : Vec4 α) (s : α) :
    (v4_div_vs a s).x = a.x / s ∧ (v4_div_vs a s).y = a.y / s ∧ (v4_div_vs a s).z = a.z / s ∧ (v4_div_vs a s).w = a.w / s := by
  simp only [gen_simp, and_self]

theorem v4_div_sv (s : α) (b : Vec4 α) :
    (v4_div_sv s b).x = s / b.x ∧ (v4_div_sv s b).y = s / b.y ∧ (v4_div_sv s b).z = s / b.z ∧ (v4_div_sv s b).w = s / b.w := by
  simp only [gen_simp, and_self]

theorem v4_div_assign (a b : Vec4 α) :
    (v4_div_assign a b).x = a.x / b.x ∧ (v4_div_assign a b).y = a.y / b.y ∧ (v4_div_assign a b).z = a.z / b.z ∧ (v4_div_assign a b).w = a.w / b.w := by
  simp only [gen_simp, and_self]

theorem v4_div_assign_s (a : Vec4 α) (s : α) :
    (v4_div_assign_s a s).x = a.x / s ∧ (v4_div_assign_s a s).y = a.y / s ∧ (v4_div_assign_s a s).z = a.z / s ∧ (v4_div_assign_s a s).w = a.w / s := by
  simp only [gen_simp, and_self]

theorem v4_min (a b : Vec4 α) :
    (v4_min a b).x = min a.x b.x ∧ (v4_min a b).y = min a.y b.y ∧ (v4_min a b).z = min a.z b.z ∧ (v4_min a b).w = min a.w b.w := by
  simp only [gen_simp, and_self]

theorem v4_max (a b : Vec4 α) :
    (v4_max a b).x = max a.x b.x ∧ (v4_max a b).y = max a.y b.y ∧ (v4_max a b).z = max a.z b.z ∧ (v4_max a b).w = max a.w b.w := by
  simp only [gen_simp, and_self]

theorem v4_eq (a b : Vec4 α) : v4_eq a b = (CNum.beq a.x b.x && CNum.beq a.y b.y && CNum.beq a.z b.z && CNum.beq a.w b.w) := by
  simp only [gen_simp]

theorem v4_ne (a b : Vec4 α) : v4_ne a b = (!(CNum.beq a.x b.x && CNum.beq a.y b.y && CNum.beq a.z b.z && CNum.beq a.w b.w)) := by
  simp only [gen_simp]

theorem v4_anyLessThan (a b : Vec4 α) : v4_anyLessThan a b = (decide (a.x < b.x) || decide (a.y < b.y) || decide (a.z < b.z) || decide (a.w < b.w)) := by
  simp only [gen_simp]

theorem v4_dot (a b : Vec4 α) : v4_dot a b = a.x * b.x + a.y * b.y + a.z * b.z + a.w * b.w := by
  simp only [gen_simp]

theorem v4_length (a : Vec4 α) : v4_length a = CNum.sqrt (a.x * a.x + a.y * a.y + a.z * a.z + a.w * a.w) := by
  simp only [gen_simp]

theorem v4_normalize (a : Vec4 α) :
    (v4_normalize a).x = a.x * s_rsqrt (a.x * a.x + a.y * a.y + a.z * a.z + a.w * a.w) ∧ (v4_normalize a).y = a.y * s_rsqrt (a.x * a.x + a.y * a.y + a.z * a.z + a.w * a.w) ∧ (v4_normalize a).z = a.z * s_rsqrt (a.x * a.x + a.y * a.y + a.z * a.z + a.w * a.w) ∧ (v4_normalize a).w = a.w * s_rsqrt (a.x * a.x + a.y * a.y + a.z * a.z + a.w * a.w) := by
  simp only [gen_simp, and_self]

theorem v4_safe_normalize (a : Vec4 α) :
    (v4_safe_normalize a).x = a.x * s_rsqrt (max CNum.ulp (a.x * a.x + a.y * a.y + a.z * a.z + a.w * a.w)) ∧ (v4_safe_normalize a).y = a.y * s_rsqrt (max CNum.ulp (a.x * a.x + a.y * a.y + a.z * a.z + a.w * a.w)) ∧ (v4_safe_normalize a).z = a.z * s_rsqrt (max CNum.ulp (a.x * a.x + a.y * a.y + a.z * a.z + a.w * a.w)) ∧ (v4_safe_normalize a).w = a.w * s_rsqrt (max CNum.ulp (a.x * a.x + a.y * a.y + a.z * a.z + a.w * a.w)) := by
  simp only [gen_simp, and_self]

theorem v4_reduce_add (a : Vec4 α) : v4_reduce_add a = a.x + a.y + a.z + a.w := by
  simp only [gen_simp]

theorem v4_reduce_mul (a : Vec4 α) : v4_reduce_mul a = a.x * a.y * a.z * a.w := by
  simp only [gen_simp]

theorem v4_reduce_min (a : Vec4 α) : v4_reduce_min a = min (min a.x a.y) (min a.z a.w) := by
  simp only [gen_simp]

theorem v4_reduce_max (a : Vec4 α) : v4_reduce_max a = max (max a.x a.y) (max a.z a.w) := by
  simp only [gen_simp]

theorem v4_sum (a : Vec4 α) : v4_sum a = a.x + a.y + a.z + a.w := by
  simp only [gen_simp]

theorem v4_product (a : Vec4 α) : v4_product a = a.x * a.y * a.z * a.w := by
  simp only [gen_simp]

theorem v4_broadcast (s : α) :
    ((v4_broadcast s : Vec4 α)).x = s ∧ ((v4_broadcast s : Vec4 α)).y = s ∧ ((v4_broadcast s : Vec4 α)).z = s ∧ ((v4_broadcast s : Vec4 α)).w = s := by
  simp only [gen_simp, and_self]

theorem v4_from_components (x y z w : α) :
    ((v4_from_components x y z w : Vec4 α)).x = x ∧ ((v4_from_components x y z w : Vec4 α)).y = y ∧ ((v4_from_components x y z w : Vec4 α)).z = z ∧ ((v4_from_components x y z w : Vec4 α)).w = w := by
  simp only [gen_simp, and_self]

theorem v3_cross (a b : Vec3 α) :
    (v3_cross a b).x = a.y * b.z - a.z * b.y ∧ (v3_cross a b).y = a.z * b.x - a.x * b.z ∧ (v3_cross a b).z = a.x * b.y - a.y * b.x := by
  simp only [gen_simp, and_self]

theorem v3_madd (a b c : Vec3 α) :
    (v3_madd a b c).x = s_madd a.x b.x c.x ∧ (v3_madd a b c).y = s_madd a.y b.y c.y ∧ (v3_madd a b c).z = s_madd a.z b.z c.z := by
  simp only [gen_simp, and_self]

theorem v3a_cross (a b : Vec3a α) :
    (v3a_cross a b).x = a.y * b.z - a.z * b.y ∧ (v3a_cross a b).y = a.z * b.x - a.x * b.z ∧ (v3a_cross a b).z = a.x * b.y - a.y * b.x := by
  simp only [gen_simp, and_self]

theorem v3a_madd (a b c : Vec3a α) :
    (v3a_madd a b c).x = s_madd a.x b.x c.x ∧ (v3a_madd a b c).y = s_madd a.y b.y c.y ∧ (v3a_madd a b c).z = s_madd a.z b.z c.z := by
  simp only [gen_simp, and_self]

theorem v3_v3a_dot (a : Vec3 α) (b : Vec3a α) : v3_v3a_dot a b = a.x * b.x + a.y * b.y + a.z * b.z := by
  simp only [gen_simp]

theorem v3a_v3_dot (a : Vec3a α) (b : Vec3 α) : v3a_v3_dot a b = a.x * b.x + a.y * b.y + a.z * b.z := by
  simp only [gen_simp]

theorem v3a_add_v3 (a : Vec3a α) (b : Vec3 α) :
    (v3a_add_v3 a b).x = a.x + b.x ∧ (v3a_add_v3 a b).y = a.y + b.y ∧ (v3a_add_v3 a b).z = a.z + b.z := by
  simp only [gen_simp, and_self]

theorem v3_from_v2 (o : Vec2 α) (z : α) :
    (v3_from_v2 o z).x = o.x ∧ (v3_from_v2 o z).y = o.y ∧ (v3_from_v2 o z).z = z := by
  simp only [gen_simp, and_self]

theorem v4_from_v3 (o : Vec3 α) (w : α) :
    (v4_from_v3 o w).x = o.x ∧ (v4_from_v3 o w).y = o.y ∧ (v4_from_v3 o w).z = o.z ∧ (v4_from_v3 o w).w = w := by
  simp only [gen_simp, and_self]

theorem v4_from_v2v2 (a b : Vec2 α) :
    (v4_from_v2v2 a b).x = a.x ∧ (v4_from_v2v2 a b).y = a.y ∧ (v4_from_v2v2 a b).z = b.x ∧ (v4_from_v2v2 a b).w = b.y := by
  simp only [gen_simp, and_self]

theorem v3a_from_v3 (o : Vec3 α) :
    (v3a_from_v3 o).x = o.x ∧ (v3a_from_v3 o).y = o.y ∧ (v3a_from_v3 o).z = o.z := by
  simp only [gen_simp, and_self]

theorem v3_from_v3a (o : Vec3a α) :
    (v3_from_v3a o).x = o.x ∧ (v3_from_v3a o).y = o.y ∧ (v3_from_v3a o).z = o.z := by
  simp only [gen_simp, and_self]

theorem v3_conv_from_v3a (o : Vec3a α) :
    (v3_conv_from_v3a o).x = o.x ∧ (v3_conv_from_v3a o).y = o.y ∧ (v3_conv_from_v3a o).z = o.z := by
  simp only [gen_simp, and_self]

theorem v2_interpolate_uv (f : Vec3 α) (a b c : Vec2 α) :
    (v2_interpolate_uv f a b c).x = f.x * a.x + f.y * b.x + f.z * c.x ∧ (v2_interpolate_uv f a b c).y = f.x * a.y + f.y * b.y + f.z * c.y := by
  simp only [gen_simp, and_self]

theorem v3_interpolate_uv (f : Vec3 α) (a b c : Vec3 α) :
    (v3_interpolate_uv f a b c).x = f.x * a.x + f.y * b.x + f.z * c.x ∧ (v3_interpolate_uv f a b c).y = f.x * a.y + f.y * b.y + f.z * c.y ∧ (v3_interpolate_uv f a b c).z = f.x * a.z + f.y * b.z + f.z * c.z := by
  simp only [gen_simp, and_self]

theorem v3a_interpolate_uv (f : Vec3 α) (a b c : Vec3a α) :
    (v3a_interpolate_uv f a b c).x = f.x * a.x + f.y * b.x + f.z * c.x ∧ (v3a_interpolate_uv f a b c).y = f.x * a.y + f.y * b.y + f.z * c.y ∧ (v3a_interpolate_uv f a b c).z = f.x * a.z + f.y * b.z + f.z * c.z := by
  simp only [gen_simp, and_self]

theorem v4_interpolate_uv (f : Vec3 α) (a b c : Vec4 α) :
    (v4_interpolate_uv f a b c).x = f.x * a.x + f.y * b.x + f.z * c.x ∧ (v4_interpolate_uv f a b c).y = f.x * a.y + f.y * b.y + f.z * c.y ∧ (v4_interpolate_uv f a b c).z = f.x * a.z + f.y * b.z + f.z * c.z ∧ (v4_interpolate_uv f a b c).w = f.x * a.w + f.y * b.w + f.z * c.w := by
  simp only [gen_simp, and_self]

end float_family

section int_family
open RkVerif.Gen.C04I

theorem i_s_divRoundUp (a b : α) : s_divRoundUp a b = (a + b - 1) / b := by
  simp only [gen_simp]

theorem i_v2_mod (a b : Vec2 α) :
    (v2_mod a b).x = a.x % b.x ∧ (v2_mod a b).y = a.y % b.y := by
  simp only [gen_simp, and_self]

theorem i_v2_mod_vs (a : Vec2 α) (s : α) :
    (v2_mod_vs a s).x = a.x % s ∧ (v2_mod_vs a s).y = a.y % s := by
  simp only [gen_simp, and_self]

theorem i_v2_mod_sv (s : α) (b : Vec2 α) :
    (v2_mod_sv s b).x = s % b.x ∧ (v2_mod_sv s b).y = s % b.y := by
  simp only [gen_simp, and_self]

theorem i_v2_mod_assign (a b : Vec2 α) :
    (v2_mod_assign a b).x = a.x % b.x ∧ (v2_mod_assign a b).y = a.y % b.y := by
  simp only [gen_simp, and_self]

theorem i_v2_divRoundUp (a b : Vec2 α) :
    (v2_divRoundUp a b).x = s_divRoundUp a.x b.x ∧ (v2_divRoundUp a b).y = s_divRoundUp a.y b.y := by
  simp only [gen_simp, and_self]

theorem i_v2_idiv (a b : Vec2 α) :
    (v2_idiv a b).x = a.x / b.x ∧ (v2_idiv a b).y = a.y / b.y := by
  simp only [gen_simp, and_self]

theorem i_v3_mod (a b : Vec3 α) :
    (v3_mod a b).x = a.x % b.x ∧ (v3_mod a b).y = a.y % b.y ∧ (v3_mod a b).z = a.z % b.z := by
  simp only [gen_simp, and_self]

theorem i_v3_mod_vs (a : Vec3 α) (s : α) :
    (v3_mod_vs a s).x = a.x % s ∧ (v3_mod_vs a s).y = a.y % s ∧ (v3_mod_vs a s).z = a.z % s := by
  simp only [gen_simp, and_self]

theorem i_v3_mod_sv (s : α) (b : Vec3 α) :
    (v3_mod_sv s b).x = s % b.x ∧ (v3_mod_sv s b).y = s % b.y ∧ (v3_mod_sv s b).z = s % b.z := by
  simp only [gen_simp, and_self]

theorem i_v3_mod_assign (a b : Vec3 α) :
    (v3_mod_assign a b).x = a.x % b.x ∧ (v3_mod_assign a b).y = a.y % b.y ∧ (v3_mod_assign a b).z = a.z % b.z := by
  simp only [gen_simp, and_self]

theorem i_v3_divRoundUp (a b : Vec3 α) :
    (v3_divRoundUp a b).x = s_divRoundUp a.x b.x ∧ (v3_divRoundUp a b).y = s_divRoundUp a.y b.y ∧ (v3_divRoundUp a b).z = s_divRoundUp a.z b.z := by
  simp only [gen_simp, and_self]

theorem i_v3_idiv (a b : Vec3 α) :
    (v3_idiv a b).x = a.x / b.x ∧ (v3_idiv a b).y = a.y / b.y ∧ (v3_idiv a b).z = a.z / b.z := by
  simp only [gen_simp, and_self]

theorem i_v3a_mod (a b : Vec3a α) :
    (v3a_mod a b).x = a.x % b.x ∧ (v3a_mod a b).y = a.y % b.y ∧ (v3a_mod a b).z = a.z % b.z := by
  simp only [gen_simp, and_self]

theorem i_v3a_mod_vs (a : Vec3a α) (s : α) :
    (v3a_mod_vs a s).x = a.x % s ∧ (v3a_mod_vs a s).y = a.y % s ∧ (v3a_mod_vs a s).z = a.z % s := by
  simp only [gen_simp, and_self]

theorem i_v3a_mod_sv (s : α) (b : Vec3a α) :
    (v3a_mod_sv s b).x = s % b.x ∧ (v3a_mod_sv s b).y = s % b.y ∧ (v3a_mod_sv s b).z = s % b.z := by
  simp only [gen_simp, and_self]

theorem i_v3a_mod_assign (a b : Vec3a α) :
    (v3a_mod_assign a b).x = a.x % b.x ∧ (v3a_mod_assign a b).y = a.y % b.y ∧ (v3a_mod_assign a b).z = a.z % b.z := by
  simp only [gen_simp, and_self]

theorem i_v3a_divRoundUp (a b : Vec3a α) :
    (v3a_divRoundUp a b).x = s_divRoundUp a.x b.x ∧ (v3a_divRoundUp a b).y = s_divRoundUp a.y b.y ∧ (v3a_divRoundUp a b).z = s_divRoundUp a.z b.z := by
  simp only [gen_simp, and_self]

theorem i_v3a_idiv (a b : Vec3a α) :
    (v3a_idiv a b).x = a.x / b.x ∧ (v3a_idiv a b).y = a.y / b.y ∧ (v3a_idiv a b).z = a.z / b.z := by
  simp only [gen_simp, and_self]

theorem i_v4_mod (a b : Vec4 α) :
    (v4_mod a b).x = a.x % b.x ∧ (v4_mod a b).y = a.y % b.y ∧ (v4_mod a b).z = a.z % b.z ∧ (v4_mod a b).w = a.w % b.w := by
  simp only [gen_simp, and_self]

theorem i_v4_mod_vs (a : Vec4 α) (s : α) :
    (v4_mod_vs a s).x = a.x % s ∧ (v4_mod_vs a s).y = a.y % s ∧ (v4_mod_vs a s).z = a.z % s ∧ (v4_mod_vs a s).w = a.w % s := by
  simp only [gen_simp, and_self]

theorem i_v4_mod_sv (s : α) (b : Vec4 α) :
    (v4_mod_sv s b).x = s % b.x ∧ (v4_mod_sv s b).y = s % b.y ∧ (v4_mod_sv s b).z = s % b.z ∧ (v4_mod_sv s b).w = s % b.w := by
  simp only [gen_simp, and_self]

theorem i_v4_mod_assign (a b : Vec4 α) :
    (v4_mod_assign a b).x = a.x % b.x ∧ (v4_mod_assign a b).y = a.y % b.y ∧ (v4_mod_assign a b).z = a.z % b.z ∧ (v4_mod_assign a b).w = a.w % b.w := by
  simp only [gen_simp, and_self]

theorem i_v4_divRoundUp (a b : Vec4 α) :
    (v4_divRoundUp a b).x = s_divRoundUp a.x b.x ∧ (v4_divRoundUp a b).y = s_divRoundUp a.y b.y ∧ (v4_divRoundUp a b).z = s_divRoundUp a.z b.z ∧ (v4_divRoundUp a b).w = s_divRoundUp a.w b.w := by
  simp only [gen_simp, and_self]

theorem i_v4_idiv (a b : Vec4 α) :
    (v4_idiv a b).x = a.x / b.x ∧ (v4_idiv a b).y = a.y / b.y ∧ (v4_idiv a b).z = a.z / b.z ∧ (v4_idiv a b).w = a.w / b.w := by
  simp only [gen_simp, and_self]

end int_family

end RkVerif.C04
