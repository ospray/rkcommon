/-
Property C19 — observers see each notification once; time stamps are unique and increasing.
Property theorems only (model: Model/C19.lean, helpers: Lemmas/C19.lean).
Every theorem declared in this module is an audited proof obligation of the check.

Histories are most-recent-first lists of operations (`op :: earlier`); `runC` is the model of the
code (stamps, registration lists, pointers with explicit liveness), `runA` the specification with
one `pending` bit per observer.  Operations that do not apply (creating into an occupied slot,
using an empty slot) are skipped by both, so the theorems hold for *every* list of operations.
-/
import RkVerif.Lemmas.C19
-- `copy_keeps_value` names a hypothesis (`hdst`) that its proof does not use
set_option linter.unusedVariables false

namespace RkVerif.C19

/-- observer_refines: for every history the code model produces exactly the outputs of the
    `pending`-bit specification (every `wasNotified()` result, every ok/skip). -/
theorem observer_refines (hist : List Op) : (runC hist).2 = (runA hist).2 := (run_rel hist).2

theorem observer_refines_next (hist : List Op) (op : Op) :
    (stepC (runC hist).1 op).2 = (stepA (runA hist).1 op).2 := (sim_step (run_rel hist).1 op).2

/-- no_dangling: in no history does the code dereference a pointer to a destroyed object
    (`fault` is set by the model whenever `observee->…` or `observer->…` hits a dead slot) —
    whatever the order in which observables and observers are destroyed, copied or assigned. -/
theorem no_dangling (hist : List Op) : (runC hist).1.fault = false := (runC_wf hist).nofault

/-- no_dangling, structural form: after every history the `observee` pointers and the registration lists
    agree, and point at live objects only. -/
theorem no_dangling_pointers (hist : List Op) :
    (∀ o c b, (runC hist).1.obr o = some c → c.observee = some b → ((runC hist).1.obl b).isSome = true) ∧
    (∀ b B o, (runC hist).1.obl b = some B →
      (o ∈ B.observers ↔ ∃ c, (runC hist).1.obr o = some c ∧ c.observee = some b)) :=
  ⟨fun o c b ho hb => by simpa [ln] using (runC_wf hist).live_target ho hb,
    fun b B o hb => ((runC_wf hist).reg hb o).trans tgt_eq_some⟩

/-- What `wasNotified()` of the observer in slot `o` returns when called after `hist`. -/
def pollC (hist : List Op) (o : Nat) : Out := (stepC (runC hist).1 (.poll o)).2

/-- `wasNotified` returns the `pending` bit of the specification … -/
theorem poll_returns_pending (hist : List Op) (o : Nat) :
    pollC hist o = match (runA hist).1.obs o with
      | none => .skip
      | some x => .res x.pending := by
  rw [pollC, observer_refines_next]
  simp only [stepA]
  split <;> simp_all

/-- … and clears it: a second poll right after a poll returns false. -/
theorem poll_clears {hist : List Op} {o : Nat} {r : Bool} (h : pollC hist o = .res r) :
    pollC (.poll o :: hist) o = .res false := by
  rw [poll_returns_pending] at h ⊢
  simp only [runA_cons, stepA]
  cases hx : (runA hist).1.obs o with
  | none => simp [hx] at h
  | some x => simp [upd]

/-- `op` neither destroys nor re-targets observer `o` and does not destroy observable `b`. -/
def Op.keeps (o b : Nat) : Op → Bool
  | .odel o' => o' != o
  | .oassign o' _ => o' != o
  | .bdel b' => b' != b
  | _ => true

/-- Scanning back from the most recent operation: was there a `notify b` before (i.e. more recent
    than) the latest `poll o`?  `p0` is the answer for the empty list. -/
def sinceLast (p0 : Bool) (o b : Nat) : List Op → Bool
  | [] => p0
  | .poll o' :: rest => if o' = o then false else sinceLast p0 o b rest
  | .notify b' :: rest => if b' = b then true else sinceLast p0 o b rest
  | _ :: rest => sinceLast p0 o b rest

theorem sinceLast_cons_eq (p : Bool) (o b : Nat) (op : Op) (rest : List Op) :
    sinceLast p o b (op :: rest) =
      if op = .poll o then false else if op = .notify b then true else sinceLast p o b rest := by
  cases op <;> simp [sinceLast]

/-- readable form of `sinceLast false`: some `notify b` occurs with no `poll o` after it. -/
theorem sinceLast_true_iff (o b : Nat) (mid : List Op) :
    sinceLast false o b mid = true ↔
      ∃ later earlier, mid = later ++ .notify b :: earlier ∧ Op.poll o ∉ later := by
  induction mid with
  | nil => simp [sinceLast]
  | cons op rest ih =>
    have : (∃ later earlier, op :: rest = later ++ .notify b :: earlier ∧ Op.poll o ∉ later) ↔
        op = .notify b ∨ (op ≠ .poll o ∧ sinceLast false o b rest = true) := by
      rw [ih]
      constructor
      · rintro ⟨_ | ⟨x, xs⟩, earlier, he, hn⟩
        · exact .inl (List.cons.inj he).1
        · cases he; exact .inr ⟨fun e => hn (by simp [e]), xs, earlier, rfl, fun hm => hn (by simp [hm])⟩
      · rintro (rfl | ⟨h1, later, earlier, rfl, hn⟩)
        · exact ⟨[], rest, rfl, by simp⟩
        · exact ⟨op :: later, earlier, rfl, by simp [hn, Ne.symm h1]⟩
    rw [this, sinceLast_cons_eq]
    by_cases h1 : op = .poll o
    · simp [h1]
    · by_cases h2 : op = .notify b <;> simp [h1, h2]

theorem specA_track_step {a : ASt} {o b : Nat} {p : Bool} {op : Op} {rest : List Op}
    (ho : a.obs o = some ⟨sinceLast p o b rest, some b⟩) (hb : a.alive b = true) (hk : op.keeps o b = true) :
    (stepA a op).1.obs o = some ⟨sinceLast p o b (op :: rest), some b⟩ := by
  -- a step leaves `obs` alone, maps over the observers of one observable, or writes one slot: that of `o` only
  -- for `poll o`, since `hk` excludes `odel`/`oassign` on `o` and `onew`/`ocopy` write a slot they found empty
  cases op <;> simp only [stepA, sinceLast, Op.keeps] at hk ⊢ <;> split <;> grind [upd, mapTarget]

theorem specA_track {hist mid : List Op} {o b : Nat} {p : Bool}
    (ho : (runA hist).1.obs o = some ⟨p, some b⟩) (hk : ∀ op ∈ mid, op.keeps o b = true) :
    (runA (mid ++ hist)).1.obs o = some ⟨sinceLast p o b mid, some b⟩ := by
  induction mid with
  | nil => exact ho
  | cons op rest ih =>
    have ⟨hop, hrest⟩ := List.forall_mem_cons.mp hk
    -- `b` is still live: the specification state after a history describes a well-formed state
    exact specA_track_step (ih hrest) ((run_rel _).1.target_alive (ih hrest) rfl) hop

/-- poll_iff_notified_since_creation: an observer created on `b` (at any point of any history,
    however often `b` notified before) answers its next `wasNotified()` with true exactly when a
    `notify b` happened since its creation and since its latest poll — for every sequence `mid` of
    operations in between that leaves the pair alone (operations on other observers and
    observables, further polls and notifications, copies, …). -/
theorem poll_iff_notified_since_creation (hist mid : List Op) (o b : Nat)
    (hnew : (stepC (runC hist).1 (.onew o b)).2 = .ok)
    (hk : ∀ op ∈ mid, op.keeps o b = true) :
    pollC (mid ++ .onew o b :: hist) o = .res (sinceLast false o b mid) := by
  rw [observer_refines_next] at hnew
  have base : (runA (.onew o b :: hist)).1.obs o = some ⟨false, some b⟩ := by
    simp only [runA_cons]
    simp only [stepA] at hnew ⊢
    split at hnew <;> simp_all [upd]
  rw [poll_returns_pending, specA_track base hk]

/-- poll_iff_notified_since_poll: the same counted from the observer's previous poll. -/
theorem poll_iff_notified_since_poll (hist mid : List Op) (o b : Nat) (c : Obr)
    (ho : (runC hist).1.obr o = some c) (hb : c.observee = some b)
    (hk : ∀ op ∈ mid, op.keeps o b = true) :
    pollC (mid ++ .poll o :: hist) o = .res (sinceLast false o b mid) := by
  obtain ⟨p, hx⟩ := spec_of_observer (run_rel hist).1 ho hb
  have base : (runA (.poll o :: hist)).1.obs o = some ⟨false, some b⟩ := by simp [stepA, hx]
  rw [poll_returns_pending, specA_track base hk]

/-- coalesce: any number (≥ 1) of notifications between two polls are seen as one:
    the next poll returns true, the one after it false. -/
theorem coalesce (hist : List Op) (o b k : Nat) (c : Obr)
    (ho : (runC hist).1.obr o = some c) (hb : c.observee = some b) :
    pollC (List.replicate (k + 1) (.notify b) ++ .poll o :: hist) o = .res true ∧
    pollC (.poll o :: (List.replicate (k + 1) (.notify b) ++ .poll o :: hist)) o = .res false := by
  have h1 := poll_iff_notified_since_poll hist (List.replicate (k + 1) (.notify b)) o b c ho hb
    (by intro op hop; rw [List.mem_replicate] at hop; rw [hop.2]; rfl)
  have : sinceLast false o b (List.replicate (k + 1) (.notify b)) = true := by
    simp [List.replicate_succ, sinceLast]
  rw [this] at h1
  exact ⟨h1, poll_clears h1⟩

/-- late_observer_clear: an observer created after notifications does not see them. -/
theorem late_observer_clear (hist : List Op) (o b : Nat)
    (hnew : (stepC (runC hist).1 (.onew o b)).2 = .ok) :
    pollC (.onew o b :: hist) o = .res false := by
  simpa [sinceLast] using poll_iff_notified_since_creation hist [] o b hnew (by simp)

/-- independent: another observer's poll does not change what this observer will be told. -/
theorem independent (hist : List Op) (o o' : Nat) (h : o' ≠ o) :
    pollC (.poll o' :: hist) o = pollC hist o := by
  rw [poll_returns_pending, poll_returns_pending]
  simp only [runA_cons, stepA]
  cases hx : (runA hist).1.obs o' <;> simp [upd, Ne.symm h]

/-- … and neither does a notification of an observable it does not observe. -/
theorem independent_notify (hist : List Op) (o b b' : Nat) (c : Obr)
    (ho : (runC hist).1.obr o = some c) (hb : c.observee = some b) (h : b' ≠ b) :
    pollC (.notify b' :: hist) o = pollC hist o := by
  obtain ⟨p, hx⟩ := spec_of_observer (run_rel hist).1 ho hb
  rw [poll_returns_pending, poll_returns_pending]
  simp only [runA_cons, stepA]
  by_cases hal : (runA hist).1.alive b' = true
  · simp [hal, mapTarget, hx, Ne.symm h]
  · simp [hal, hx]

/-- `op` neither destroys nor re-targets observer `o`. -/
def Op.keepsObserver (o : Nat) : Op → Bool
  | .odel o' => o' != o
  | .oassign o' _ => o' != o
  | _ => true

theorem specA_orphan_step {a : ASt} {o : Nat} {op : Op}
    (ho : a.obs o = some ⟨false, none⟩) (hk : op.keepsObserver o = true) :
    (stepA a op).1.obs o = some ⟨false, none⟩ := by
  -- as in `specA_track_step`
  cases op <;> simp only [stepA, Op.keepsObserver] at hk ⊢ <;> split <;> grind [upd, mapTarget]

/-- orphan_false: once its observable has been destroyed an observer answers false — immediately
    and after any further operations `mid` (as long as the observer itself is not destroyed or
    assigned to), e.g. notifications of a new observable that reuses the same address. -/
theorem orphan_false (hist mid : List Op) (o b : Nat) (c : Obr)
    (ho : (runC hist).1.obr o = some c) (hb : c.observee = some b)
    (hk : ∀ op ∈ mid, op.keepsObserver o = true) :
    pollC (mid ++ .bdel b :: hist) o = .res false := by
  obtain ⟨p, hx⟩ := spec_of_observer (run_rel hist).1 ho hb
  have hal := (run_rel hist).1.target_alive hx rfl
  have : (runA (mid ++ .bdel b :: hist)).1.obs o = some ⟨false, none⟩ := by
    induction mid with
    | nil => simp [stepA, hal, mapTarget, hx]
    | cons op rest ih =>
      have ⟨hop, hrest⟩ := List.forall_mem_cons.mp hk
      exact specA_orphan_step (ih hrest) hop
  rw [poll_returns_pending, this]

/-- stamp_roles_disjoint: after every history a stamp held by a live observer differs from the stamp
    held by any live observable, so `lastObserved <= lastNotified` and `lastObserved < lastNotified`
    agree: writing `<=` in wasNotified() is an equivalent rewrite (the check must not, and does not,
    report it). -/
theorem stamp_roles_disjoint (hist : List Op) (o b : Nat) (c : Obr) (B : Obl)
    (ho : (runC hist).1.obr o = some c) (hb : (runC hist).1.obl b = some B) :
    c.lastObserved ≠ B.lastNotified ∧
      (c.lastObserved ≤ B.lastNotified ↔ c.lastObserved < B.lastNotified) := by
  have : c.lastObserved ≠ B.lastNotified := fun e =>
    ((runC_wf hist).lo_ok o c ho).2 b (by simp [ln, hb, e])
  exact ⟨this, by omega⟩

-- both destruction orders, observed through the model's dereference check
example : (runC [.odel 0, .bdel 0, .notify 0, .onew 0 0, .bnew 0]).1.fault = false := by decide
example : (runC [.bdel 0, .odel 0, .notify 0, .onew 0 0, .bnew 0]).1.fault = false := by decide
-- the dereference check is real: a state with a dangling `observee` (what the unfixed copy
-- constructor produced: the copy is not in the registration list, so ~Observable cannot null it)
example : (stepC { obr := upd (fun _ => none) 1 (some ⟨0, some 0⟩) } (.poll 1)).1.fault = true := by decide
-- and a stale registration (what the unfixed Observable copy produced) faults in ~Observable
example : (stepC { obl := upd (fun _ => none) 1 (some ⟨0, [0]⟩) } (.bdel 1)).1.fault = true := by decide
-- hypotheses of the history theorems are satisfiable, and the answers are not constant
example : (stepC (runC [.notify 0, .notify 0, .bnew 0]).1 (.onew 0 0)).2 = .ok := by decide
example : pollC [.notify 0, .notify 0, .onew 0 0, .notify 0, .bnew 0] 0 = .res true := by decide
example : pollC [.poll 0, .notify 0, .notify 0, .onew 0 0, .notify 0, .bnew 0] 0 = .res false := by decide
example : pollC [.onew 0 0, .notify 0, .bnew 0] 0 = .res false := by decide
example : pollC [.notify 1, .bnew 1, .bdel 1, .onew 0 1, .bnew 1] 0 = .res false := by decide
-- copies: registered, inherit the source's state, survive the source, are orphaned with it
example : pollC [.notify 0, .ocopy 1 0, .onew 0 0, .bnew 0] 1 = .res true := by decide
example : pollC [.odel 0, .ocopy 1 0, .notify 0, .onew 0 0, .bnew 0] 1 = .res true := by decide
example : pollC [.bdel 0, .odel 0, .ocopy 1 0, .notify 0, .onew 0 0, .bnew 0] 1 = .res false := by decide
example : (runC [.odel 1, .bdel 0, .odel 0, .ocopy 1 0, .onew 0 0, .bnew 0]).1.fault = false := by decide

/-! ### stamps drawn by the rest of the process

The counter is process-wide: between two operations of an observer history any number of stamps may be drawn by code
that has nothing to do with these observers (other `TimeStamp`s, other observables; 2^31 or 2^40 of them in a
long-running renderer).  `HOp` adds such draws to the histories; the theorems say they are invisible: only the order
of the stamps an observer and its observable hold matters, never their distance. -/

inductive HOp where
  | op (o : Op)
  | draws (n : Nat)        -- n stamps handed out elsewhere
deriving Repr, DecidableEq

def stepH (s : St) : HOp → St × Option Out
  | .op o => let (s', r) := stepC s o; (s', some r)
  | .draws n => (jump s n, none)

/-- History (most recent first) with foreign draws: final state and the outputs of the operations. -/
def runH : List HOp → St × List Out
  | [] => ({}, [])
  | h :: earlier =>
    let (s, outs) := runH earlier
    match stepH s h with
    | (s', some o) => (s', o :: outs)
    | (s', none) => (s', outs)

def HOp.op? : HOp → Option Op
  | .op o => some o
  | .draws _ => none

/-- `run_rel` for histories with foreign draws: a draw only raises the counter, which `WF` allows and `abs`
    does not look at. -/
theorem runH_rel (hist : List HOp) :
    Rel (runH hist).1 (runA (hist.filterMap HOp.op?)).1 ∧ (runH hist).2 = (runA (hist.filterMap HOp.op?)).2 := by
  induction hist with
  | nil => exact ⟨Rel.init, rfl⟩
  | cons h earlier ih =>
    obtain ⟨hr, ho⟩ := ih
    cases h with
    | op o =>
      have := sim_step hr o
      simp only [runH, stepH, List.filterMap_cons, HOp.op?, runA]
      exact ⟨this.1, by rw [this.2, ho]⟩
    | draws n =>
      simp only [runH, stepH, List.filterMap_cons, HOp.op?]
      exact ⟨⟨hr.1.jump n, hr.2⟩, ho⟩

/-- foreign_draws_invisible: whatever numbers of stamps are drawn elsewhere between the operations, every
    `wasNotified()` result and every ok/skip is the one of the `pending`-bit specification run on the operations alone,
    and no dangling pointer is followed. -/
theorem foreign_draws_invisible (hist : List HOp) :
    (runH hist).2 = (runA (hist.filterMap HOp.op?)).2 ∧ (runH hist).1.fault = false :=
  ⟨(runH_rel hist).2, (runH_rel hist).1.1.nofault⟩

/-- in particular the outputs do not depend on how many stamps were drawn elsewhere, nor where. -/
theorem foreign_draws_irrelevant (h1 h2 : List HOp) (h : h1.filterMap HOp.op? = h2.filterMap HOp.op?) :
    (runH h1).2 = (runH h2).2 := by
  rw [(foreign_draws_invisible h1).1, (foreign_draws_invisible h2).1, h]

-- non-vacuity: a notification 2^31 draws before the poll is still seen, once
example : (runH [.op (.poll 0), .op (.poll 0), .draws (2 ^ 31), .op (.notify 0), .draws (2 ^ 32), .op (.onew 0 0), .op (.bnew 0)]).2
    = [.res false, .res true, .ok, .ok, .ok] := by decide

/-- the state every schedule starts from: counter at any value, nothing handed out yet. -/
def sinit (c0 : Nat) (reg stamp : Nat → Nat) : SSt := { counter := c0, reg := reg, stamp := stamp, log := [] }

theorem sinit_inv (c0 : Nat) (reg stamp : Nat → Nat) (sched : List SStep) : SInv (srun (sinit c0 reg stamp) sched) :=
  srun_induction SInv.step ⟨by simp [sinit], .nil⟩ sched

/-- stamps_increasing: in every schedule (any number of threads, any interleaving of their
    micro-steps) the values handed out are strictly increasing in the order of the atomic
    read-modify-writes, and all are below the counter. -/
theorem stamps_increasing (c0 : Nat) (reg stamp : Nat → Nat) (sched : List SStep) :
    (issued (srun (sinit c0 reg stamp) sched)).Pairwise (fun later earlier => earlier < later) ∧
    ∀ v ∈ issued (srun (sinit c0 reg stamp) sched), c0 ≤ v ∧ v < (srun (sinit c0 reg stamp) sched).counter := by
  have inv := sinit_inv c0 reg stamp sched
  -- the counter starts at `c0` and never goes back
  have lower : c0 ≤ (srun (sinit c0 reg stamp) sched).counter ∧
      ∀ e ∈ (srun (sinit c0 reg stamp) sched).log, c0 ≤ e.2 :=
    srun_induction (P := fun s => c0 ≤ s.counter ∧ ∀ e ∈ s.log, c0 ≤ e.2)
      (fun s st h => by
        cases st with
        | fetchInc t => exact ⟨Nat.le_succ_of_le h.1, List.forall_mem_cons.mpr ⟨h.1, h.2⟩⟩
        | _ => exact h) ⟨Nat.le_refl _, by simp [sinit]⟩ sched
  refine ⟨by simp only [issued, List.pairwise_map]; exact inv.sorted, fun v hv => ?_⟩
  obtain ⟨e, he, rfl⟩ := List.mem_map.mp hv
  exact ⟨lower.2 e he, inv.below e he⟩

/-- stamps_unique: no two freshly created / renewed stamps — on whatever threads — get the same value. -/
theorem stamps_unique (c0 : Nat) (reg stamp : Nat → Nat) (sched : List SStep) :
    (issued (srun (sinit c0 reg stamp) sched)).Nodup := by
  have := (stamps_increasing c0 reg stamp sched).1
  exact this.imp (fun h => by omega)

/-- stamps_thread_monotone: the values a thread obtains are strictly increasing in its program order. -/
theorem stamps_thread_monotone (c0 : Nat) (reg stamp : Nat → Nat) (sched : List SStep) (t : Nat) :
    (issuedTo (srun (sinit c0 reg stamp) sched) t).Pairwise (fun later earlier => earlier < later) :=
  (stamps_increasing c0 reg stamp sched).1.sublist (issuedTo_sublist _ t)

/-- `issuedTo` is a sub-collection of `issued`, so `stamps_unique` is uniqueness across all threads. -/
theorem issuedTo_sub_issued (s : SSt) (t v : Nat) (h : v ∈ issuedTo s t) : v ∈ issued s :=
  (issuedTo_sublist s t).subset h

/-- fresh_exceeds_existing: when all values present (in stamps and registers) are below the
    counter — true initially for a counter that has only been used through `nextValue` — this stays
    so in every schedule, and a fresh value is larger than every value held by any stamp or thread
    at that moment (in particular every value the thread obtained or copied before). -/
theorem fresh_exceeds_existing (s0 : SSt) (h0 : SBelow s0) (sched : List SStep) (t : Nat) :
    (∀ k, (srun s0 sched).stamp k < (sstep (srun s0 sched) (.fetchInc t)).reg t) ∧
    (∀ t', (srun s0 sched).reg t' < (sstep (srun s0 sched) (.fetchInc t)).reg t) := by
  have h := srun_induction SBelow.step h0 sched
  simp only [sstep, upd_same]
  exact ⟨h.stamp, h.reg⟩

/-- copy_keeps_value: the value loaded from the source arrives in the destination whatever other
    threads do between the load and the store: they cannot touch this thread's register, and the
    final store overwrites whatever the destination held (so `hdst`, no store of others to the
    destination in between, is assumed but not needed). -/
theorem copy_keeps_value (s : SSt) (t dst src : Nat) (mid : List SStep)
    (hmid : ∀ st ∈ mid, st.thread ≠ t) (hdst : ∀ t', SStep.store t' dst ∉ mid) :
    (srun s (.store t dst :: (mid ++ [.load t src]))).stamp dst = s.stamp src :=
  load_store_value s t dst src mid hmid

/-- the copy constructor / assignment programs executed without interruption. -/
theorem copy_ctor_value (s : SSt) (t dst src : Nat) (h : src ≠ dst) :
    (sexec s (progCopyCtor t dst src)).stamp dst = s.stamp src := by
  simp [sexec, progCopyCtor, sstep, upd, h]

theorem assign_value (s : SSt) (t dst src : Nat) :
    (sexec s (progAssign t dst src)).stamp dst = s.stamp src := by
  simp [sexec, progAssign, sstep, upd]

/-- a created / renewed stamp holds the value handed out to its thread. -/
theorem create_value (s : SSt) (t k : Nat) :
    (sexec s (progCreate t k)).stamp k = s.counter ∧ (sexec s (progCreate t k)).counter = s.counter + 1 ∧
    issuedTo (sexec s (progCreate t k)) t = s.counter :: issuedTo s t := by
  simp [sexec, progCreate, sstep, upd, issuedTo]

-- three threads interleaved: six values, all distinct
example : issued (srun (sinit 5 (fun _ => 0) (fun _ => 0))
    [.fetchInc 2, .store 0 0, .fetchInc 1, .fetchInc 0, .fetchInc 2, .store 1 1, .fetchInc 1, .fetchInc 0])
    = [10, 9, 8, 7, 6, 5] := by decide
example : issuedTo (srun (sinit 5 (fun _ => 0) (fun _ => 0))
    [.fetchInc 2, .store 0 0, .fetchInc 1, .fetchInc 0, .fetchInc 2, .store 1 1, .fetchInc 1, .fetchInc 0]) 1
    = [9, 6] := by decide
-- SBelow is satisfiable (the state of a fresh process)
example : SBelow { counter := 1 } := ⟨fun _ => by simp, fun _ => by simp⟩
-- what goes wrong without atomicity: a non-atomic increment split into read and write lets two
-- threads read the same counter value; modelled here by two loads of a shared cell
example : (srun {} [.load 1 0, .load 0 0]).reg 0 = (srun {} [.load 1 0, .load 0 0]).reg 1 := by decide

end RkVerif.C19
