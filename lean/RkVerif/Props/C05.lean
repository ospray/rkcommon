/-
Property C05 — ranges and boxes behave as closed axis-aligned sets.
The theorems are about the definitions in RkVerif/Gen/C05.lean, which
tools/cpp2lean.py regenerates from /repo's range.h / box.h / AffineSpace.h on every run:
each `r1_*`, `b2_*`, `b3_*`, `b3a_*`, `b4_*`, `xfm_*`, `ray_*` name is a wrapper of tr/c05_drv.cpp.
The translation is that of the RKCOMMON_NO_SIMD configuration: `rcp` is `1 / x` (the SIMD Newton–Raphson
reciprocal is the subject of C07).
Order facts hold over *any* bounded linear order (floats with ±∞, integers with their extremes);
arithmetic facts over any linearly ordered field.
Every box is read as the interval `[lower, upper]` of the componentwise order (`*_contains_iff`,
`*_empty_eq_false`, `*_disjoint_eq_false`, `b3_touching_iff`); the order theorems are then instances of the
interval facts of `MeetJoin` (Lemmas/C05.lean), the same for every dimension.
-/
import RkVerif.Lemmas.C05
import Mathlib.Order.Fin.Basic

open RkVerif RkVerif.Gen.C05

namespace RkVerif.C05

variable {α : Type}

section order
-- `Preorder.toLE` is named for the reason given at the same line of Lemmas/C05.lean
variable [LinearOrder α] [@BoundedOrder α Preorder.toLE]
attribute [local instance] CNum.ofBoundedOrder

/-! ### contains(p) ⇔ lower ≤ p ≤ upper in every component (closed on both ends) -/

theorem r1_contains_iff (r : Range1 α) (t : α) :
    r1_contains r t = true ↔ r.lower ≤ t ∧ t ≤ r.upper := by
  simp only [r1_contains, Range1_contains_S, anyLessThan_S_S, Bool.and_eq_true, Bool.not_eq_true',
    decide_eq_false_iff_not, not_lt]

theorem b2_contains_iff (b : Box2 α) (p : Vec2 α) :
    b2_contains b p = true ↔ Vec2.le b.lower p ∧ Vec2.le p b.upper := by
  simp only [b2_contains, Box2_contains_Vec2, Bool.and_eq_true, Bool.not_eq_true',
    anyLessThan_Vec2_eq_false (α := α) not_lt]

theorem b3_contains_iff (b : Box3 α) (p : Vec3 α) :
    b3_contains b p = true ↔ Vec3.le b.lower p ∧ Vec3.le p b.upper := by
  simp only [b3_contains, Box3_contains_Vec3, Bool.and_eq_true, Bool.not_eq_true',
    anyLessThan_Vec3_eq_false (α := α) not_lt]

-- closed on both ends, as the model computes it: a point on an upper, a lower and an upper face is contained
example : b3_contains (⟨⟨0,1,2⟩,⟨3,4,5⟩⟩ : Box3 (Fin 6)) ⟨3,1,5⟩ = true := by decide

theorem b4_contains_iff (b : Box4 α) (p : Vec4 α) :
    b4_contains b p = true ↔ Vec4.le b.lower p ∧ Vec4.le p b.upper := by
  simp only [b4_contains, Box4_contains_Vec4, Bool.and_eq_true, Bool.not_eq_true',
    anyLessThan_Vec4_eq_false (α := α) not_lt]

theorem b2_empty_eq_false {b : Box2 α} : b2_empty b = false ↔ Vec2.le b.lower b.upper :=
  anyLessThan_Vec2_eq_false not_lt

theorem b3_empty_eq_false {b : Box3 α} : b3_empty b = false ↔ Vec3.le b.lower b.upper :=
  anyLessThan_Vec3_eq_false not_lt

theorem b2_disjoint_eq_false {a b : Box2 α} :
    b2_disjoint a b = false ↔ Vec2.le b.lower a.upper ∧ Vec2.le a.lower b.upper := by
  simp only [b2_disjoint, disjoint_Box2_Box2, Bool.or_eq_false_iff, anyLessThan_Vec2_eq_false (α := α) not_lt]

theorem b3_disjoint_eq_false {a b : Box3 α} :
    b3_disjoint a b = false ↔ Vec3.le b.lower a.upper ∧ Vec3.le a.lower b.upper := by
  simp only [b3_disjoint, disjoint_Box3_Box3, Bool.or_eq_false_iff, anyLessThan_Vec3_eq_false (α := α) not_lt]

theorem b3_touching_iff {a b : Box3 α} :
    b3_touching a b = true ↔ Vec3.le b.lower a.upper ∧ Vec3.le a.lower b.upper := by
  rw [← Bool.not_eq_false', ← b3_disjoint_eq_not_touching, b3_disjoint_eq_false]

/-! ### extend: smallest box containing the old box and the argument -/

theorem r1_extend_least (r : Range1 α) (t : α) :
    (∀ q, r1_contains r q = true → r1_contains (r1_extend r t) q = true) ∧
    r1_contains (r1_extend r t) t = true ∧
    (∀ c : Range1 α, c.lower ≤ r.lower → r.upper ≤ c.upper → r1_contains c t = true →
        c.lower ≤ (r1_extend r t).lower ∧ (r1_extend r t).upper ≤ c.upper) := by
  simp only [r1_contains_iff]
  have h := linearOrder_meetJoin.extend_least r.lower r.upper t
  exact ⟨h.1, h.2.1, fun c => h.2.2 c.lower c.upper⟩

theorem b3_extend_least (b : Box3 α) (p : Vec3 α) :
    (∀ q, b3_contains b q = true → b3_contains (b3_extend b p) q = true) ∧
    b3_contains (b3_extend b p) p = true ∧
    (∀ c : Box3 α, Vec3.le c.lower b.lower → Vec3.le b.upper c.upper → b3_contains c p = true →
        Vec3.le c.lower (b3_extend b p).lower ∧ Vec3.le (b3_extend b p).upper c.upper) := by
  simp only [b3_contains_iff]
  have h := Vec3.meetJoin.extend_least b.lower b.upper p
  exact ⟨h.1, h.2.1, fun c => h.2.2 c.lower c.upper⟩

theorem b2_extend_least (b : Box2 α) (p : Vec2 α) :
    (∀ q, b2_contains b q = true → b2_contains (b2_extend b p) q = true) ∧
    b2_contains (b2_extend b p) p = true ∧
    (∀ c : Box2 α, Vec2.le c.lower b.lower → Vec2.le b.upper c.upper → b2_contains c p = true →
        Vec2.le c.lower (b2_extend b p).lower ∧ Vec2.le (b2_extend b p).upper c.upper) := by
  simp only [b2_contains_iff]
  have h := Vec2.meetJoin.extend_least b.lower b.upper p
  exact ⟨h.1, h.2.1, fun c => h.2.2 c.lower c.upper⟩

theorem b4_extend_least (b : Box4 α) (p : Vec4 α) :
    (∀ q, b4_contains b q = true → b4_contains (b4_extend b p) q = true) ∧
    b4_contains (b4_extend b p) p = true := by
  simp only [b4_contains_iff]
  have h := Vec4.meetJoin.extend_least b.lower b.upper p
  exact ⟨h.1, h.2.1⟩

/-- extending by a box: the result contains both boxes (that it is the least such box is not stated). -/
theorem b3_extend_box (a b : Box3 α) (q : Vec3 α) :
    (b3_contains a q = true ∨ b3_contains b q = true) → b3_contains (b3_extend_b a b) q = true := by
  simp only [b3_contains_iff]; exact Vec3.meetJoin.hull_contains

/-! ### the default-constructed (empty) box is the identity of extend -/

theorem r1_emptyctor_eq_default : (r1_emptyctor : Range1 α) = r1_default := rfl
theorem r1_default_extend_range (r : Range1 α) : r1_extend_r r1_default r = r ∧ r1_extend_r r r1_default = r := by
  simp only [gen_simp, ofBoundedOrder_posInf, ofBoundedOrder_neg_top, min_top_left, max_bot_left, min_top_right,
    max_bot_right, and_self]
theorem b3_default_extend_box (b : Box3 α) : b3_extend_b b3_default b = b ∧ b3_extend_b b b3_default = b := by
  simp only [gen_simp, ofBoundedOrder_posInf, ofBoundedOrder_neg_top, min_top_left, max_bot_left, min_top_right,
    max_bot_right, and_self]
-- extending by a point `p` is extending by the box `[p, p]`
theorem r1_default_extend (t : α) : r1_extend r1_default t = ⟨t, t⟩ := (r1_default_extend_range ⟨t, t⟩).1
theorem b3_default_extend (p : Vec3 α) : b3_extend b3_default p = ⟨p, p⟩ := (b3_default_extend_box ⟨p, p⟩).1
theorem b2_default_extend (p : Vec2 α) : b2_extend b2_default p = ⟨p, p⟩ := by
  simp only [gen_simp, ofBoundedOrder_posInf, ofBoundedOrder_neg_top, min_top_left, max_bot_left]

/-- the upper bound `-∞` of the default box lies below its lower bound `+∞` -/
theorem neg_top_lt_top (h : (⊥ : α) ≠ ⊤) : -(⊤ : α) < ⊤ := by
  rw [ofBoundedOrder_neg_top]; exact h.lt_top

/-- the default box is empty (contains no point) as soon as the order has two elements. -/
theorem b3_default_empty (h : (⊥ : α) ≠ ⊤) : b3_empty (b3_default : Box3 α) = true ∧
    ∀ p, b3_contains (b3_default : Box3 α) p = false := by
  have hne : ¬ Vec3.le (b3_default : Box3 α).lower b3_default.upper := fun hc => (neg_top_lt_top h).not_ge hc.1
  refine ⟨?_, fun p => ?_⟩
  · rwa [← Bool.not_eq_false, b3_empty_eq_false]
  · rw [← Bool.not_eq_true, b3_contains_iff]
    exact fun hc => hne (Vec3.meetJoin.trans hc.1 hc.2)

theorem r1_default_empty (h : (⊥ : α) ≠ ⊤) : r1_empty (r1_default : Range1 α) = true :=
  decide_eq_true (neg_top_lt_top h)

-- the hypothesis of `b3_default_empty` and `r1_default_empty` holds, e.g. in the order of the examples in this file
example : (⊥ : Fin 6) ≠ ⊤ := by decide

/-- for ranges `empty()` is exactly "contains no point" -/
theorem r1_empty_iff (r : Range1 α) : r1_empty r = true ↔ ∀ t, r1_contains r t = false := by
  simp only [← Bool.not_eq_true, r1_contains_iff, ← not_exists, linearOrder_meetJoin.exists_between, not_le]
  exact decide_eq_true_iff

/-- for boxes `empty()` is "some axis is inverted" (`b3_empty_eq_false` is the same in terms of `Vec3.le`) -/
theorem b3_empty_iff (b : Box3 α) : b3_empty b = true ↔
    (b.upper.x < b.lower.x ∨ b.upper.y < b.lower.y ∨ b.upper.z < b.lower.z) := by
  simp only [b3_empty, Box3_empty, anyLessThan_Vec3_Vec3, Bool.or_eq_true, decide_eq_true_eq, or_assoc]

/-! ### intersectionOf contains exactly the common points -/

theorem b2_inter_contains (a b : Box2 α) (p : Vec2 α) :
    b2_contains (b2_inter a b) p = true ↔ (b2_contains a p = true ∧ b2_contains b p = true) := by
  simp only [b2_contains_iff]; exact Vec2.meetJoin.inter_contains
theorem b3_inter_contains (a b : Box3 α) (p : Vec3 α) :
    b3_contains (b3_inter a b) p = true ↔ (b3_contains a p = true ∧ b3_contains b p = true) := by
  simp only [b3_contains_iff]; exact Vec3.meetJoin.inter_contains
theorem b4_inter_contains (a b : Box4 α) (p : Vec4 α) :
    b4_contains (b4_inter a b) p = true ↔ (b4_contains a p = true ∧ b4_contains b p = true) := by
  simp only [b4_contains_iff]; exact Vec4.meetJoin.inter_contains

/-! ### disjoint ⇔ not touchingOrOverlapping (always), intersection empty ⇔ disjoint (non-inverted inputs) -/

theorem b2_disjoint_iff_not_touching (a b : Box2 α) : b2_disjoint a b = !b2_touching a b :=
  b2_disjoint_eq_not_touching a b

theorem b3_disjoint_iff_not_touching (a b : Box3 α) : b3_disjoint a b = !b3_touching a b :=
  b3_disjoint_eq_not_touching a b

/-- touchingOrOverlapping ⇔ the two boxes share a point (for non-inverted boxes): the common points are
    those of the intersection, which has a point iff its bounds are in order. -/
theorem b3_touching_iff_common_point (a b : Box3 α) (ha : b3_empty a = false) (hb : b3_empty b = false) :
    b3_touching a b = true ↔ ∃ p, b3_contains a p = true ∧ b3_contains b p = true := by
  simp only [b3_touching_iff, b3_contains_iff, ← Vec3.meetJoin.inter_contains, Vec3.meetJoin.exists_between]
  exact (Vec3.meetJoin.inter_nonempty (b3_empty_eq_false.1 ha) (b3_empty_eq_false.1 hb)).symm

/-
FULL STATEMENT (false on the current code, known finding C05-inverted-box-disjoint):
    ∀ a b, b3_empty (b3_inter a b) = b3_disjoint a b
It fails when an input box is itself inverted (e.g. the result of a previous intersectionOf of
disjoint boxes): `disjoint` only compares the two boxes' bounds with each other.
Proved: the statement for non-inverted inputs.
-/
theorem b3_inter_empty_iff_disjoint_partial (a b : Box3 α) (ha : b3_empty a = false) (hb : b3_empty b = false) :
    b3_empty (b3_inter a b) = b3_disjoint a b := by
  rw [← Bool.not_inj_iff, ← Bool.coe_false_iff_false, b3_empty_eq_false, b3_disjoint_eq_false]
  exact Vec3.meetJoin.inter_nonempty (b3_empty_eq_false.1 ha) (b3_empty_eq_false.1 hb)

theorem b2_inter_empty_iff_disjoint_partial (a b : Box2 α) (ha : b2_empty a = false) (hb : b2_empty b = false) :
    b2_empty (b2_inter a b) = b2_disjoint a b := by
  rw [← Bool.not_inj_iff, ← Bool.coe_false_iff_false, b2_empty_eq_false, b2_disjoint_eq_false]
  exact Vec2.meetJoin.inter_nonempty (b2_empty_eq_false.1 ha) (b2_empty_eq_false.1 hb)

/-- The full statement fails: box `a` = intersectionOf([0,1]³,[2,3]³) = [2,1]³ has no points, yet
    `disjoint(a, [0,5]³)` is false while `intersectionOf(a, [0,5]³)` is empty. -/
theorem inter_empty_iff_disjoint_full_is_false :
    ∃ a b : Box3 (Fin 6), b3_empty (b3_inter a b) ≠ b3_disjoint a b :=
  ⟨⟨⟨2,2,2⟩,⟨1,1,1⟩⟩, ⟨⟨0,0,0⟩,⟨5,5,5⟩⟩, by decide⟩

-- `ha`, `hb` of the partial statements and of `b3_touching_iff_common_point` are met by [0,1]³ and [2,3]³ …
example : b3_empty (⟨⟨0,0,0⟩,⟨1,1,1⟩⟩ : Box3 (Fin 6)) = false ∧ b3_empty (⟨⟨2,2,2⟩,⟨3,3,3⟩⟩ : Box3 (Fin 6)) = false := by decide
-- … and intersectionOf turns these two into the inverted box `a` of the witness
example : b3_inter (⟨⟨0,0,0⟩,⟨1,1,1⟩⟩ : Box3 (Fin 6)) ⟨⟨2,2,2⟩,⟨3,3,3⟩⟩ = ⟨⟨2,2,2⟩,⟨1,1,1⟩⟩ := by decide

/-! ### the padded 3-D box (`vec_t<T, 3, true>`)
box.h never reads the padding lane; `Box3a.toBox3` forgets it. Each statement below is definitionally the `b3_*`
statement at the images: `b3a_contains`, `b3a_disjoint`, `b3a_touching` and `Vec3a.le` unfold to the same expressions in
the fields `x`, `y`, `z` as `b3_contains`, … and `Vec3.le` do there, and `b3a_inter` differs from `b3_inter` only in
writing 0 to the padding lane. So the `b3_*` theorem is the proof. -/

def Vec3a.toVec3 (v : Vec3a α) : Vec3 α := ⟨v.x, v.y, v.z⟩
def Box3a.toBox3 (b : Box3a α) : Box3 α := ⟨Vec3a.toVec3 b.lower, Vec3a.toVec3 b.upper⟩

theorem b3a_contains_iff (b : Box3a α) (p : Vec3a α) :
    b3a_contains b p = true ↔ Vec3a.le b.lower p ∧ Vec3a.le p b.upper :=
  b3_contains_iff (Box3a.toBox3 b) (Vec3a.toVec3 p)
theorem b3a_inter_contains (a b : Box3a α) (p : Vec3a α) :
    b3a_contains (b3a_inter a b) p = true ↔ (b3a_contains a p = true ∧ b3a_contains b p = true) :=
  b3_inter_contains (Box3a.toBox3 a) (Box3a.toBox3 b) (Vec3a.toVec3 p)
theorem b3a_disjoint_iff_not_touching (a b : Box3a α) : b3a_disjoint a b = !b3a_touching a b :=
  b3_disjoint_iff_not_touching (Box3a.toBox3 a) (Box3a.toBox3 b)

/-! ### clamp returns the nearest contained point (per axis) -/

/-- "Nearest" without a distance: the result lies between `t` and every contained point `q`, so no contained point is
    closer to `t`. -/
theorem r1_clamp_nearest (r : Range1 α) (t : α) (h : r.lower ≤ r.upper) :
    r1_contains r (r1_clamp r t) = true ∧
    (r1_contains r t = true → r1_clamp r t = t) ∧
    (∀ q, r1_contains r q = true →
        (t ≤ r1_clamp r t ∧ r1_clamp r t ≤ q) ∨ (q ≤ r1_clamp r t ∧ r1_clamp r t ≤ t)) := by
  simp only [r1_contains_iff, r1_clamp, Range1_clamp_S]
  refine ⟨⟨le_max_left _ _, max_le h (min_le_right _ _)⟩,
    fun ht => by rw [min_eq_left ht.2, max_eq_right ht.1], fun q hq => ?_⟩
  rcases le_total t q with c | c
  · rw [min_eq_left (c.trans hq.2)]
    exact .inl ⟨le_max_right _ _, max_le hq.1 c⟩
  · exact .inr ⟨le_max_of_le_right (le_min c hq.2), max_le (hq.1.trans c) (min_le_left _ _)⟩

/-- Boxes clamp per axis, so `r1_clamp_nearest` applies to every axis. -/
theorem b3_clamp_per_axis (b : Box3 α) (p : Vec3 α) :
    (b3_clamp b p).x = r1_clamp ⟨b.lower.x, b.upper.x⟩ p.x ∧
    (b3_clamp b p).y = r1_clamp ⟨b.lower.y, b.upper.y⟩ p.y ∧
    (b3_clamp b p).z = r1_clamp ⟨b.lower.z, b.upper.z⟩ p.z :=
  ⟨rfl, rfl, rfl⟩
theorem b2_clamp_per_axis (b : Box2 α) (p : Vec2 α) :
    (b2_clamp b p).x = r1_clamp ⟨b.lower.x, b.upper.x⟩ p.x ∧
    (b2_clamp b p).y = r1_clamp ⟨b.lower.y, b.upper.y⟩ p.y :=
  ⟨rfl, rfl⟩
theorem b4_clamp_per_axis (b : Box4 α) (p : Vec4 α) :
    (b4_clamp b p).x = r1_clamp ⟨b.lower.x, b.upper.x⟩ p.x ∧
    (b4_clamp b p).y = r1_clamp ⟨b.lower.y, b.upper.y⟩ p.y ∧
    (b4_clamp b p).z = r1_clamp ⟨b.lower.z, b.upper.z⟩ p.z ∧
    (b4_clamp b p).w = r1_clamp ⟨b.lower.w, b.upper.w⟩ p.w :=
  ⟨rfl, rfl, rfl, rfl⟩

end order

/-! ## arithmetic facts: any linearly ordered field; `top`, `fmin` stand for +∞ and FLT_MIN -/
section field
variable [Field α] [LinearOrder α] [IsStrictOrderedRing α] (top fmin : α)
local notation "𝔽" => CNum.ofField α top fmin

theorem r1_contains_iffF {r : Range1 α} {t : α} :
    @r1_contains α 𝔽 r t = true ↔ r.lower ≤ t ∧ t ≤ r.upper := by
  simp only [r1_contains, Range1_contains_S, anyLessThan_S_S, Bool.and_eq_true, Bool.not_eq_true',
    decide_eq_false_iff_not, not_lt]
theorem b3_contains_iffF {b : Box3 α} {p : Vec3 α} :
    @b3_contains α 𝔽 b p = true ↔ Vec3.le b.lower p ∧ Vec3.le p b.upper := by
  simp only [b3_contains, Box3_contains_Vec3, Bool.and_eq_true, Bool.not_eq_true',
    @anyLessThan_Vec3_eq_false α 𝔽 not_lt]
theorem b2_contains_iffF {b : Box2 α} {p : Vec2 α} :
    @b2_contains α 𝔽 b p = true ↔ Vec2.le b.lower p ∧ Vec2.le p b.upper := by
  simp only [b2_contains, Box2_contains_Vec2, Bool.and_eq_true, Bool.not_eq_true',
    @anyLessThan_Vec2_eq_false α 𝔽 not_lt]

/-! ### size, center, area, volume, scaling, translation match their definitions -/
theorem r1_size_def (r : Range1 α) : @r1_size α 𝔽 r = r.upper - r.lower := rfl
theorem r1_center_def (r : Range1 α) : @r1_center α 𝔽 r = (r.lower + r.upper) / 2 :=
  half_mul _
theorem r1_scale_def (r : Range1 α) (s : α) :
    @r1_scale α 𝔽 r s = ⟨r.lower * s, r.upper * s⟩ ∧ @r1_scale_l α 𝔽 s r = ⟨r.lower * s, r.upper * s⟩ :=
  ⟨rfl, rfl⟩
theorem r1_translate_def (r : Range1 α) (s : α) :
    @r1_translate α 𝔽 r s = ⟨r.lower + s, r.upper + s⟩ ∧ @r1_translate_l α 𝔽 s r = ⟨r.lower + s, r.upper + s⟩ :=
  ⟨rfl, rfl⟩
theorem b2_size_def (b : Box2 α) : @b2_size α 𝔽 b = ⟨b.upper.x - b.lower.x, b.upper.y - b.lower.y⟩ := rfl
theorem b3_size_def (b : Box3 α) :
    @b3_size α 𝔽 b = ⟨b.upper.x - b.lower.x, b.upper.y - b.lower.y, b.upper.z - b.lower.z⟩ := rfl
theorem b2_center_def (b : Box2 α) :
    @b2_center α 𝔽 b = ⟨(b.lower.x + b.upper.x) / 2, (b.lower.y + b.upper.y) / 2⟩ ∧
    @b2_center_free α 𝔽 b = @b2_center α 𝔽 b :=
  ⟨congrArg₂ Vec2.mk (half_mul _) (half_mul _), rfl⟩
theorem b3_center_def (b : Box3 α) :
    @b3_center α 𝔽 b = ⟨(b.lower.x + b.upper.x) / 2, (b.lower.y + b.upper.y) / 2, (b.lower.z + b.upper.z) / 2⟩ := by
  simp only [gen_simp, ofField_ofScientific, half_mul]
theorem b2_area_def (b : Box2 α) :
    @b2_area α 𝔽 b = (b.upper.x - b.lower.x) * (b.upper.y - b.lower.y) := rfl
theorem b3_area_def (b : Box3 α) : @b3_area α 𝔽 b =
    2 * ((b.upper.x - b.lower.x) * (b.upper.y - b.lower.y) + (b.upper.x - b.lower.x) * (b.upper.z - b.lower.z) +
         (b.upper.y - b.lower.y) * (b.upper.z - b.lower.z)) := by
  -- the definition itself, like its neighbours, once `2` is written as the code's literal `2.0`
  rw [show (2 : α) = OfScientific.ofScientific 20 true 1 by norm_num]; rfl
theorem b3_volume_def (b : Box3 α) : @b3_volume α 𝔽 b =
    (b.upper.x - b.lower.x) * (b.upper.y - b.lower.y) * (b.upper.z - b.lower.z) := rfl
theorem b3_scale_def (b : Box3 α) (s : Vec3 α) : @b3_scale α 𝔽 b s =
    ⟨⟨b.lower.x * s.x, b.lower.y * s.y, b.lower.z * s.z⟩, ⟨b.upper.x * s.x, b.upper.y * s.y, b.upper.z * s.z⟩⟩ := rfl
theorem b3_translate_def (b : Box3 α) (s : Vec3 α) : @b3_translate α 𝔽 b s =
    ⟨⟨b.lower.x + s.x, b.lower.y + s.y, b.lower.z + s.z⟩, ⟨b.upper.x + s.x, b.upper.y + s.y, b.upper.z + s.z⟩⟩ := rfl

/-! ### xfmBounds contains the image of every point of the box -/

/-- `xfm_point m p` is the affine image `m.p + p.x·m.l.vx + p.y·m.l.vy + p.z·m.l.vz`. -/
theorem xfm_point_def (m : Aff3 α) (p : Vec3 α) : @xfm_point α 𝔽 m p =
    ⟨p.x * m.l.vx.x + (p.y * m.l.vy.x + (p.z * m.l.vz.x + m.p.x)),
     p.x * m.l.vx.y + (p.y * m.l.vy.y + (p.z * m.l.vz.y + m.p.y)),
     p.x * m.l.vx.z + (p.y * m.l.vy.z + (p.z * m.l.vz.z + m.p.z))⟩ := rfl

/-- `xfmBounds` extends the empty box by the images of the eight corners in turn, so each of them lies
    between the folded minimum and maximum (whatever `top` is; `xfm_point` stays folded). -/
theorem xfm_bounds_corner (m : Aff3 α) (b : Box3 α) {ex ey ez : α} (hx : ex = b.lower.x ∨ ex = b.upper.x)
    (hy : ey = b.lower.y ∨ ey = b.upper.y) (hz : ez = b.lower.z ∨ ez = b.upper.z) :
    @b3_contains α 𝔽 (@xfm_bounds α 𝔽 m b) (@xfm_point α 𝔽 m ⟨ex, ey, ez⟩) = true := by
  rw [b3_contains_iffF]
  simp only [xfm_bounds, xfmBounds_Aff3_Box3, Box3_extend_Vec3, min_Vec3_Vec3, max_Vec3_Vec3, Vec3_mk_S_S_S, xfm_point,
    Vec3.le, min_le_iff, le_max_iff]
  rcases hx with rfl | rfl <;> rcases hy with rfl | rfl <;> rcases hz with rfl | rfl <;>
    simp only [le_refl, true_or, or_true, and_self]

/-- each output coordinate of `xfm_point` is affine in each input coordinate, hence between bounds that hold at the eight
    corners (`affine_between_of_corners`) -/
theorem xfm_point_mem_of_corners {m : Aff3 α} {b B : Box3 α} {p : Vec3 α} (hp : @b3_contains α 𝔽 b p = true)
    (h : ∀ {ex ey ez}, (ex = b.lower.x ∨ ex = b.upper.x) → (ey = b.lower.y ∨ ey = b.upper.y) →
      (ez = b.lower.z ∨ ez = b.upper.z) → @b3_contains α 𝔽 B (@xfm_point α 𝔽 m ⟨ex, ey, ez⟩) = true) :
    @b3_contains α 𝔽 B (@xfm_point α 𝔽 m p) = true := by
  simp only [b3_contains_iffF, xfm_point_def, Vec3.le] at hp h ⊢
  obtain ⟨⟨x₁, y₁, z₁⟩, x₂, y₂, z₂⟩ := hp
  -- the hypothesis at a corner, regrouped by output coordinate: `(x between) ∧ (y between) ∧ (z between)`
  have hc := fun {ex ey ez} hx hy hz => and_and_and_comm₃.2 (@h ex ey ez hx hy hz)
  exact and_and_and_comm₃.1
    ⟨affine_between_of_corners ⟨x₁, x₂⟩ ⟨y₁, y₂⟩ ⟨z₁, z₂⟩ fun hx hy hz => (hc hx hy hz).1,
     affine_between_of_corners ⟨x₁, x₂⟩ ⟨y₁, y₂⟩ ⟨z₁, z₂⟩ fun hx hy hz => (hc hx hy hz).2.1,
     affine_between_of_corners ⟨x₁, x₂⟩ ⟨y₁, y₂⟩ ⟨z₁, z₂⟩ fun hx hy hz => (hc hx hy hz).2.2⟩

/-- For every affine map and every point of the box, the image lies in `xfmBounds`.
    No hypothesis on `top` is needed. -/
theorem xfmBounds_contains (m : Aff3 α) (b : Box3 α) (p : Vec3 α)
    (hp : @b3_contains α 𝔽 b p = true) :
    @b3_contains α 𝔽 (@xfm_bounds α 𝔽 m b) (@xfm_point α 𝔽 m p) = true :=
  xfm_point_mem_of_corners top fmin hp (xfm_bounds_corner top fmin m b)

/-! ### intersectRayBox covers exactly the ray parameters whose points lie inside the box -/

/-- `rcp_safe_t` of rkmath.h: the reciprocal of `x`, or of ±FLT_MIN with the sign of `x` when `x` has smaller magnitude
    (zeros, denormals). -/
theorem rcp_safe_eq (x : α) :
    @rcp_safe_S α 𝔽 x = 1 / if |x| < fmin then (if 0 ≤ x then fmin else -fmin) else x := by
  simp only [gen_simp, ofField_ofScientific, ofField_abs, ofField_fltMin, decide_eq_true_eq]
  norm_num

/-! ### axis-parallel rays (a direction component of magnitude < FLT_MIN): the code substitutes ±1/FLT_MIN for the
    reciprocal; the statement then needs a bound on |t| relative to the distance of the origin from the slab faces -/

/-- what the slab test needs of one axis: either the direction component is not tiny, or (axis-parallel ray) the origin
    is strictly inside the slab with `|t|·FLT_MIN` at most the distance to the nearer face, or strictly outside with
    `|t|·FLT_MIN` below the distance to the slab. (Not covered: origin exactly in a face plane — see the witness below.) -/
def AxisOK (lo up o d t : α) : Prop :=
  fmin ≤ |d| ∨ (|d| < fmin ∧
    ((lo < o ∧ o < up ∧ |t| * fmin ≤ o - lo ∧ |t| * fmin ≤ up - o) ∨ (o < lo ∧ |t| * fmin < lo - o) ∨
     (up < o ∧ |t| * fmin < o - up)))

/-- One axis of the slab test with the reciprocal the code uses: `rcp_safe d` is `1 / d'` for a `d'` that is `d`
    itself or, for an axis-parallel ray, `±FLT_MIN`; the slab test then decides where `o + t * d'` lies
    (`axis_iff`), which by the margins of `AxisOK` is where `o + t * d` lies. -/
theorem axis_iff_safe {lo up o d t : α} (hf : 0 < fmin) (h : lo ≤ up) (hc : AxisOK fmin lo up o d t) :
    (min ((lo - o) * @rcp_safe_S α 𝔽 d) ((up - o) * @rcp_safe_S α 𝔽 d) ≤ t ∧
      t ≤ max ((lo - o) * @rcp_safe_S α 𝔽 d) ((up - o) * @rcp_safe_S α 𝔽 d)) ↔
      (lo ≤ o + t * d ∧ o + t * d ≤ up) := by
  rw [rcp_safe_eq]
  rcases hc with hbig | ⟨hsmall, hc⟩
  · rw [if_neg hbig.not_gt]
    exact axis_iff (abs_pos.1 (hf.trans_le hbig)) h
  · rw [if_pos hsmall]
    have hd' : |if 0 ≤ d then fmin else -fmin| = fmin := by
      rw [apply_ite abs, abs_neg, ite_self, abs_of_pos hf]
    -- a displacement of magnitude at most `|t| * fmin`, as are `t * d` and `t * ±fmin`, stays on the origin's side
    have key : ∀ e, |e| ≤ |t| * fmin → ((lo ≤ o + e ∧ o + e ≤ up) ↔ (lo < o ∧ o < up)) := fun e he => by
      obtain ⟨e₁, e₂⟩ := abs_le.1 he
      rcases hc with ⟨a, b, c₁, c₂⟩ | ⟨a, c⟩ | ⟨a, c⟩
      · exact iff_of_true ⟨by linarith only [c₁, e₁], by linarith only [c₂, e₂]⟩ ⟨a, b⟩
      · exact iff_of_false (fun hh => by linarith only [hh.1, c, e₂]) fun hh => lt_asymm a hh.1
      · exact iff_of_false (fun hh => by linarith only [hh.2, c, e₁]) fun hh => lt_asymm a hh.2
    refine (axis_iff (abs_pos.1 (hf.trans_le hd'.ge)) h).trans ((key _ ?_).trans (key _ ?_).symm)
    · rw [abs_mul, hd']
    · rw [abs_mul]; exact mul_le_mul_of_nonneg_left hsmall.le (abs_nonneg t)

/-- **intersectRayBox (3D), axis-parallel rays included**: for a box that is not inverted and every axis `AxisOK`, the
    returned interval contains `t` exactly when `org + t·dir` lies in the box and `t` in the given range. -/
theorem rayBox3_iff_axis_parallel (org dir : Vec3 α) (box : Box3 α) (tr : Range1 α) (t : α) (hf : 0 < fmin)
    (hx : AxisOK fmin box.lower.x box.upper.x org.x dir.x t) (hy : AxisOK fmin box.lower.y box.upper.y org.y dir.y t)
    (hz : AxisOK fmin box.lower.z box.upper.z org.z dir.z t)
    (hb : box.lower.x ≤ box.upper.x ∧ box.lower.y ≤ box.upper.y ∧ box.lower.z ≤ box.upper.z) :
    @r1_contains α 𝔽 (@ray_box3 α 𝔽 org dir box tr) t = true ↔
      (@b3_contains α 𝔽 box ⟨org.x + t * dir.x, org.y + t * dir.y, org.z + t * dir.z⟩ = true ∧
       @r1_contains α 𝔽 tr t = true) := by
  rw [r1_contains_iffF, r1_contains_iffF, b3_contains_iffF]
  -- the returned range is the intersection of the three slabs and `tr`; each slab is one axis of the box
  exact between_max_min₄.trans (and_congr_left' ((and_congr (axis_iff_safe top fmin hf hb.1 hx) (and_congr
    (axis_iff_safe top fmin hf hb.2.1 hy) (axis_iff_safe top fmin hf hb.2.2 hz))).trans and_and_and_comm₃))

theorem rayBox2_iff_axis_parallel (org dir : Vec2 α) (box : Box2 α) (tr : Range1 α) (t : α) (hf : 0 < fmin)
    (hx : AxisOK fmin box.lower.x box.upper.x org.x dir.x t) (hy : AxisOK fmin box.lower.y box.upper.y org.y dir.y t)
    (hb : box.lower.x ≤ box.upper.x ∧ box.lower.y ≤ box.upper.y) :
    @r1_contains α 𝔽 (@ray_box2 α 𝔽 org dir box tr) t = true ↔
      (@b2_contains α 𝔽 box ⟨org.x + t * dir.x, org.y + t * dir.y⟩ = true ∧
       @r1_contains α 𝔽 tr t = true) := by
  rw [r1_contains_iffF, r1_contains_iffF, b2_contains_iffF]
  exact between_max_min₃.trans (and_congr_left' ((and_congr (axis_iff_safe top fmin hf hb.1 hx)
    (axis_iff_safe top fmin hf hb.2 hy)).trans and_and_and_comm))

/-- **intersectRayBox (3D)** for a direction with no component of magnitude below FLT_MIN. This is exact arithmetic over
    an ordered field; nothing is proved about float rounding (the check compares the C++ code with this model at
    Float32 bit for bit, and tests the statement on the code's results away from the faces). -/
theorem rayBox3_iff (org dir : Vec3 α) (box : Box3 α) (tr : Range1 α) (t : α) (hf : 0 < fmin)
    (hx : fmin ≤ |dir.x|) (hy : fmin ≤ |dir.y|) (hz : fmin ≤ |dir.z|)
    (hb : box.lower.x ≤ box.upper.x ∧ box.lower.y ≤ box.upper.y ∧ box.lower.z ≤ box.upper.z) :
    @r1_contains α 𝔽 (@ray_box3 α 𝔽 org dir box tr) t = true ↔
      (@b3_contains α 𝔽 box ⟨org.x + t * dir.x, org.y + t * dir.y, org.z + t * dir.z⟩ = true ∧
       @r1_contains α 𝔽 tr t = true) :=
  rayBox3_iff_axis_parallel top fmin org dir box tr t hf (.inl hx) (.inl hy) (.inl hz) hb

theorem rayBox2_iff (org dir : Vec2 α) (box : Box2 α) (tr : Range1 α) (t : α) (hf : 0 < fmin)
    (hx : fmin ≤ |dir.x|) (hy : fmin ≤ |dir.y|)
    (hb : box.lower.x ≤ box.upper.x ∧ box.lower.y ≤ box.upper.y) :
    @r1_contains α 𝔽 (@ray_box2 α 𝔽 org dir box tr) t = true ↔
      (@b2_contains α 𝔽 box ⟨org.x + t * dir.x, org.y + t * dir.y⟩ = true ∧
       @r1_contains α 𝔽 tr t = true) :=
  rayBox2_iff_axis_parallel top fmin org dir box tr t hf (.inl hx) (.inl hy) hb
end field

/-- **The excluded case is a genuine failure of the full statement (known finding C05-raybox-axis-parallel-on-face).**
    Unit box, ray along +z starting at (1, 1/2, 0) — in the plane of the upper x face, so every point (1, 1/2, t),
    0 ≤ t ≤ 1, is inside the (closed) box — but the x slab computed with `rcp_safe(0) = 1/FLT_MIN` is
    `[-1/FLT_MIN, 0]`, so the returned interval is `[0, 0]` and t = 1/2 is not covered. -/
theorem rayBox_axis_parallel_on_face_witness :
    let F : CNum ℚ := CNum.ofField ℚ 1000000 (1 / 1024)
    @r1_contains ℚ F (@ray_box3 ℚ F ⟨1, 1/2, 0⟩ ⟨0, 0, 1⟩ ⟨⟨0, 0, 0⟩, ⟨1, 1, 1⟩⟩ ⟨0, 10⟩) (1/2) = false ∧
    @b3_contains ℚ F ⟨⟨0, 0, 0⟩, ⟨1, 1, 1⟩⟩ ⟨1 + (1/2) * 0, 1/2 + (1/2) * 0, 0 + (1/2) * 1⟩ = true := by
  decide +kernel

/-- the hypotheses of the axis-parallel theorem are satisfiable: the same ray moved strictly inside (x = 3/4) -/
example : AxisOK (1 / 1024 : ℚ) 0 1 (3/4) 0 (1/2) := by
  right; refine ⟨by norm_num, Or.inl ⟨by norm_num, by norm_num, by norm_num, by norm_num⟩⟩

end RkVerif.C05
