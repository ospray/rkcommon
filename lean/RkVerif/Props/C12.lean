/-
Property C12 — cross-thread hand-off containers lose, duplicate and race on nothing.
Every theorem declared in this module is an audited proof obligation of the check.

Reading guide
  * An interleaving of any number of threads is a list of steps (most recent first).  For
    TransactionalBuffer every method is one step; for TransactionalValue `update()` is two steps
    (flag read / lock section) and events that are not enabled are no-ops, so *every* list is an
    execution and all real interleavings are among them.  The step granularity is what
    `tbuf_methods_atomic`, `tval_shape_ok` and `lockset_ok` establish about the access table that is
    regenerated from the headers on every run.
  * Sequential consistency + atomic lock sections stand in for the C++ memory model (DESIGN §5);
    `lockset_ok` is the data-race-freedom condition under which that replacement is sound.
-/
import RkVerif.Lemmas.C12
import RkVerif.Gen.C12Table
-- the statements below keep the `[DecidableEq P]` that `variable` puts into each of them, used or not
set_option linter.unusedSectionVars false

namespace RkVerif.C12

section TBuf
variable {P α : Type} [DecidableEq P]

/-- The batches followed by the pending buffer are all pushes in the order they took effect. -/
theorem tbuf_hand_off_order (hist : List (BEv P α)) :
    (BSys.runR hist).batches.flatten ++ (BSys.runR hist).buf.buffer = pushedAll hist :=
  delivered_runR hist

/-- tbuf_exactly_once: for any number of producers `P` and any interleaving, what the consumer has
    received (all batches, in order) followed by what is still pending, restricted to one producer,
    is exactly that producer's pushes in its program order: no loss, no duplication, no reordering.
    (`tbuf_hand_off_order` is the unrestricted form.) -/
theorem tbuf_exactly_once (hist : List (BEv P α)) (p : P) :
    ((BSys.runR hist).batches.flatten ++ (BSys.runR hist).buf.buffer).filter (fun e => e.1 = p)
      = (pushesOf p hist).map (fun x => (p, x)) := by
  rw [tbuf_hand_off_order, pushedAll_filter]

/-- "in exactly one consumed batch, exactly once": summed over all batches plus the pending buffer,
    an element occurs exactly as often as its producer pushed it (once, when the producer's
    sequence numbers are distinct — `tbuf_unique_batch`). -/
theorem tbuf_each_once [DecidableEq α] (hist : List (BEv P α)) (p : P) (x : α) :
    (((BSys.runR hist).batches.map (List.count (p, x))).sum + (BSys.runR hist).buf.buffer.count (p, x))
      = (pushesOf p hist).count x := by
  rw [← pushedAll_count, ← tbuf_hand_off_order, List.count_append, List.count_flatten]

/-- With distinct sequence numbers and the buffer drained, exactly one batch holds the element, once. -/
theorem tbuf_unique_batch [DecidableEq α] (hist : List (BEv P α)) (p : P) (x : α)
    (hx : (pushesOf p hist).count x = 1) (hdrained : (BSys.runR hist).buf.buffer = []) :
    (((BSys.runR hist).batches.map (List.count (p, x))).sum = 1) := by
  simpa [hdrained, hx] using tbuf_each_once hist p x

/-- `consume()` leaves nothing behind: right after it every push so far is in a batch. -/
theorem tbuf_drained (hist : List (BEv P α)) :
    (BSys.runR (.consume :: hist)).buf.buffer = [] ∧
    (BSys.runR (.consume :: hist)).batches.flatten = pushedAll hist := by
  have hb : (BSys.runR (.consume :: hist)).buf.buffer = [] := rfl
  have h := tbuf_hand_off_order (.consume :: hist)
  rw [hb, List.append_nil] at h
  exact ⟨hb, h⟩

/-- tbuf_no_torn_size: at every point of every interleaving `size()` returns (number of pushes so
    far) − (number of elements consumed so far), `empty()` returns whether that is 0, and neither
    changes the state. -/
theorem tbuf_no_torn_size (hist : List (BEv P α)) :
    (BSys.runR hist).exec .size =
      (BSys.runR hist, .nat ((pushedAll hist).length - ((BSys.runR hist).batches.map List.length).sum)) ∧
    (BSys.runR hist).exec .empty =
      (BSys.runR hist, .bool (decide ((pushedAll hist).length = ((BSys.runR hist).batches.map List.length).sum))) ∧
    ((BSys.runR hist).batches.map List.length).sum ≤ (pushedAll hist).length := by
  have h := congrArg List.length (tbuf_hand_off_order hist)
  rw [List.length_append, List.length_flatten] at h
  refine ⟨?_, ?_, by omega⟩
  · rw [← h, Nat.add_sub_cancel_left]; rfl
  · rw [← h, BSys.exec, TBuf.empty]
    congr 2
    rw [Bool.eq_iff_iff, List.isEmpty_iff_length_eq_zero, decide_eq_true_iff]
    omega

/-- What the consumer can rely on: it is the only thread that consumes, so between its `size()` and
    its next `consume()` there is no other `consume` (`h`), and the batch starts with the elements
    `size()` counted (batch length ≥ size seen, non-empty if `empty()` was false). -/
theorem tbuf_size_then_consume (hist more : List (BEv P α)) (h : ∀ e ∈ more, e.isConsume = false) :
    ∃ l, ((BSys.runR (more ++ hist)).exec .consume).2 = .batch l ∧
      (BSys.runR hist).buf.buffer <+: l ∧ (BSys.runR hist).buf.size ≤ l.length := by
  refine ⟨(BSys.runR (more ++ hist)).buf.buffer, by simp [BSys.exec, TBuf.consume], ?_, ?_⟩
  · exact buffer_prefix_of_no_consume hist more h
  · exact (buffer_prefix_of_no_consume hist more h).length_le

end TBuf

/-! ### non-vacuity: two producers and a consumer, interleaved -/
section
open BEv in
/-- The list is most-recent-first.  In the order of execution: p0 pushes 0, p1 pushes 0, consume, p1 pushes 1,
    size, p0 pushes 1, consume, p0 pushes 2. -/
def exHist : List (BEv Nat Nat) :=
  [push 0 2, consume, push 0 1, size, push 1 1, consume, push 1 0, push 0 0]

example : (BSys.runR exHist).batches = [[(0, 0), (1, 0)], [(1, 1), (0, 1)]] := by decide
example : (BSys.runR exHist).buf.buffer = [(0, 2)] := by decide
example : pushesOf 0 exHist = [0, 1, 2] ∧ pushesOf 1 exHist = [0, 1] := by decide
example : (pushesOf 0 exHist).count 1 = 1 := by decide
example : ∀ e ∈ [BEv.push 1 (1 : Nat), BEv.size], e.isConsume = false := by decide
end

section TVal
variable {V : Type}
open VSys

/-- tval_sequence: for every interleaving of the producer's assignments with the consumer's
    `update()` (flag read and lock section as separate steps) and `get()`: values are seen in
    assignment order (the coverage indices of the consumer's observations never decrease); every
    value `get()` returned is the initial value (index 0) or the producer's k-th assignment;
    `update()` returned true exactly when it moved the consumer to a strictly newer assignment, and
    in both cases the consumer then holds the latest assignment made up to the call's decisive step
    (`kAfter = n`). -/
theorem tval_sequence (c0 : Option V) (hist : List (VEv V)) :
    let s := VSys.runR c0 hist
    (s.log.map Obs.k).Pairwise (· ≤ ·) ∧
    (∀ k v, Obs.got k v ∈ s.log → k ≤ s.assigned.length ∧ v = valAt c0 s.assigned k) ∧
    (∀ r kb ka n, Obs.upd r kb ka n ∈ s.log →
        (r = true ↔ kb < ka) ∧ ka = n ∧ kb ≤ ka ∧ ka ≤ s.assigned.length) := by
  have h := inv_runR c0 hist
  exact ⟨h.logSorted, fun _ _ hm => (h.logOk _ hm).2, fun _ _ _ _ hm => (h.logOk _ hm).2⟩

/-- A value seen by `get()` with index `k ≥ 1` really is one of the producer's values. -/
theorem tval_seen_was_assigned (c0 : Option V) (hist : List (VEv V)) (k : Nat) (v : Option V)
    (hm : Obs.got k v ∈ (VSys.runR c0 hist).log) (hk : 0 < k) :
    ∃ x, v = some x ∧ x ∈ (VSys.runR c0 hist).assigned := by
  have ⟨h1, h2⟩ := ((inv_runR c0 hist).logOk _ hm).2
  have hlt : k - 1 < (VSys.runR c0 hist).assigned.length := by omega
  exact ⟨_, by rw [h2, valAt_pos hk, List.getElem?_eq_getElem hlt], List.getElem_mem hlt⟩

/-- tval_final ("once the producer has stopped the consumer obtains the last value"): from any
    reachable state, the consumer completing its pending `update()` and calling `update()` once
    more holds the producer's last assignment (the initial value if there was none), and keeps
    holding it through any further `update()`/`get()` calls while the producer stays silent. -/
theorem tval_final (c0 : Option V) (hist more : List (VEv V)) (hmore : ∀ e ∈ more, VEv.isAssign e = false) :
    let s := VSys.runR c0 hist
    (runFrom (finishUpdate s) more).tv.get =
      (match s.assigned.getLast? with | some v => some v | none => c0) := by
  intro s
  have hi : Inv c0 (finishUpdate s) := inv_step _ (inv_step _ (inv_step _ (inv_runR c0 hist)))
  rw [(runFrom_quiet hmore (finishUpdate_quiet s)).1, hi.get_of_quiet (finishUpdate_quiet s), finishUpdate_assigned]
  cases s.assigned.getLast? <;> rfl

section
open VEv in
/-- The list is most-recent-first.  In the order of execution: flag read (false), assign 1, get, flag read (true),
    assign 2 slips in, lock section installs 2, get. -/
def exV : List (VEv Nat) := [get, updInstall, assign 2, updRead, get, assign 1, updRead]

example : (VSys.runR (some 0) exV).log =
    [.upd false 0 0 0, .got 0 (some 0), .upd true 0 2 2, .got 2 (some 2)] := by decide
example : (VSys.runR (some 0) exV).assigned = [1, 2] := by decide
example : (finishUpdate (VSys.runR (some 0) [VEv.assign 7, .updRead, .assign 5])).tv.get = some 7 := by decide
example : ∀ e ∈ [VEv.get, VEv.updRead, (VEv.updInstall : VEv Nat)], VEv.isAssign e = false := by decide
end

end TVal

/-! ## Lockset discipline over the access table regenerated from the source -/

/-- What `locksetOk` says, spelled out. -/
theorem lockset_sound (multi : Bool) (t : List Access) (h : locksetOk multi t = true)
    (a b : Access) (ha : a ∈ t) (hb : b ∈ t) (hloc : a.loc = b.loc)
    (hconc : concurrent multi a.role b.role = true) (hw : a.write = true ∨ b.write = true) :
    (a.sect.isSome = true ∧ b.sect.isSome = true) ∨ (a.atomic = true ∧ b.atomic = true) := by
  have h2 := List.all_eq_true.mp (List.all_eq_true.mp h a ha) b hb
  have hw' : (a.write || b.write) = true := by simpa using hw
  simpa [racePair, hloc, hconc, hw'] using h2

/-- lockset_ok: in the current source, every data member touched by methods that may run
    concurrently in the documented usage (any number of producers + consumer + size/empty callers
    for the buffer; one producer + one consumer for the value) is, whenever one of the two accesses
    writes, accessed under the class's mutex on both sides or is a std::atomic. -/
theorem lockset_ok : locksetOk true Gen.tbufTable = true ∧ locksetOk false Gen.tvalTable = true := by
  decide +kernel

/-- tbuf_methods_atomic: every access of push_back/consume/size/empty lies in the method's single
    lock section — the justification for modelling each method as one atomic step (`BSys.exec`). -/
theorem tbuf_methods_atomic : singleSection Gen.tbufTable = true := by decide +kernel

/-- tval_shape_ok: operator= is one lock section; update() touches the members it shares with the
    producer only by reads before its lock section or inside that section, all writes inside —
    the step structure of `VSys.step`. -/
theorem tval_shape_ok : tvalShapeOk Gen.tvalTable = true := by decide +kernel

/-- The tables are not empty shells: each documented role occurs. -/
theorem tables_cover_usage :
    (Gen.tbufTable.any fun a => a.role == .producer && a.write) = true ∧
    (Gen.tbufTable.any fun a => a.role == .consumer && a.write) = true ∧
    (Gen.tbufTable.any fun a => a.role == .anyThread) = true ∧
    (Gen.tvalTable.any fun a => a.role == .producer && a.write) = true ∧
    (Gen.tvalTable.any fun a => a.role == .consumer && a.write && producerTouches Gen.tvalTable a.loc) = true := by
  decide +kernel

/-! ### The defect of the unchanged tree (DESIGN §9), as a witness

Table extracted from rkcommon/utility/TransactionalValue.h at the pinned commit (before
fixes/C12-tval-flag-race.patch): `update()` reads the plain `bool newValue` outside the mutex while
`operator=` writes it under the mutex. -/
def unfixedTvalTable : List Access := [
  { meth := 0, role := .init, loc := 2, write := true, sect := none, atomic := false },
  { meth := 1, role := .producer, loc := 1, write := true, sect := some 0, atomic := false },
  { meth := 1, role := .producer, loc := 0, write := true, sect := some 0, atomic := false },
  { meth := 2, role := .producer, loc := 1, write := true, sect := some 0, atomic := false },
  { meth := 2, role := .producer, loc := 0, write := true, sect := some 0, atomic := false },
  { meth := 3, role := .consumer, loc := 2, write := true, sect := none, atomic := false },
  { meth := 4, role := .consumer, loc := 2, write := false, sect := none, atomic := false },
  { meth := 5, role := .consumer, loc := 0, write := false, sect := none, atomic := false },
  { meth := 5, role := .consumer, loc := 1, write := true, sect := some 0, atomic := false },
  { meth := 5, role := .consumer, loc := 2, write := true, sect := some 0, atomic := false },
  { meth := 5, role := .consumer, loc := 0, write := true, sect := some 0, atomic := false }
]

/-- The unfixed header violates the lockset discipline: the producer's locked write of `newValue`
    (row 2) races with the consumer's unlocked read in `update()` (row 7). -/
theorem lockset_unfixed_race :
    locksetOk false unfixedTvalTable = false ∧
    racePair false
      { meth := 1, role := .producer, loc := 0, write := true, sect := some 0, atomic := false }
      { meth := 5, role := .consumer, loc := 0, write := false, sect := none, atomic := false } = true := by
  decide +kernel

/-- …while its step structure is the one modelled (so `tval_sequence` describes the unfixed code
    too, under sequential consistency — the defect is the race, not a wrong value). -/
example : tvalShapeOk unfixedTvalTable = true := by decide

end RkVerif.C12
