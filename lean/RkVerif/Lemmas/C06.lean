/-
The algebra under property C06: what the generated vector, matrix, affine-map and quaternion operations of
RkVerif/Gen/C06.lean compute at the field instance `𝔽` of `CNum` (an equation for each operation the theorems
go through, numerals of the code turned into the field's), and the general facts of which the theorems of
Props/C06.lean are instances: linearity of the matrix product, unit vectors and cross products, the frame built
on a helper axis, the conjugate and the sandwich product of quaternions, slerp and the matrix→quaternion
constructor as case distinctions over field expressions.
-/
import RkVerif.Sem.CNumMathlib
import RkVerif.Gen.C06
import Mathlib.Tactic.LinearCombination
import Mathlib.Tactic.SplitIfs
import Mathlib.Tactic.FieldSimp
import Mathlib.Tactic.Linarith

open RkVerif RkVerif.Gen.C06

namespace RkVerif.C06

section
variable {α : Type} [Field α] [LinearOrder α] [IsStrictOrderedRing α] (E : Transc α)

def I2 : Lin2 α := ⟨⟨1,0⟩,⟨0,1⟩⟩
def I3 : Lin3 α := ⟨⟨1,0,0⟩,⟨0,1,0⟩,⟨0,0,1⟩⟩
def dI2 (d : α) : Lin2 α := ⟨⟨d,0⟩,⟨0,d⟩⟩
def dI3 (d : α) : Lin3 α := ⟨⟨d,0,0⟩,⟨0,d,0⟩,⟨0,0,d⟩⟩
/-- `dot3`, `cross3`: the generated `dot_Vec3_Vec3`, `cross_Vec3_Vec3` at the field instance of `CNum`, written with the
    field's own operations (equal by `rfl`: `dot_eq`, `cross_eq`). Some statements of Props/C06.lean are written with
    them; the lemmas here are stated with the generated operations. -/
def dot3 (a b : Vec3 α) : α := a.x * b.x + a.y * b.y + a.z * b.z
def cross3 (a b : Vec3 α) : Vec3 α := ⟨a.y * b.z - a.z * b.y, a.z * b.x - a.x * b.z, a.x * b.y - a.y * b.x⟩

def A1 : Aff3 α := ⟨I3, ⟨0,0,0⟩⟩

def SqrtLaw : Prop := ∀ x : α, 0 < x → 0 < E.sqrt x ∧ E.sqrt x * E.sqrt x = x
end

variable {α : Type} [Field α] [LinearOrder α] [IsStrictOrderedRing α] {E : Transc α}
local notation "𝔽" => CNum.ofFieldT α E

theorem sci_one : @OfScientific.ofScientific α (@instOfScientificOfCNum α 𝔽) 10 true 1 = 1 := by
  rw [ofFieldT_ofScientific]; norm_num
theorem sci_half : @OfScientific.ofScientific α (@instOfScientificOfCNum α 𝔽) 5 true 1 = 1 / 2 := by
  rw [ofFieldT_ofScientific]; norm_num
theorem sci_two : @OfScientific.ofScientific α (@instOfScientificOfCNum α 𝔽) 20 true 1 = 2 := by
  rw [ofFieldT_ofScientific]; norm_num

/- `rsqrt_S` and `rcp_S` are rkmath.h's `rsqrt` and `rcp` in the RKCOMMON_NO_SIMD configuration (`1.f / std::sqrt(x)`,
   `1.f / x`), the one tr/c06_drv.cpp is translated in; the Newton–Raphson variants of the SIMD build are not modelled here. -/
theorem rsqrt_eq (x : α) : @rsqrt_S α 𝔽 x = 1 / E.sqrt x := by
  simp only [rsqrt_S, sci_one, ofFieldT_sqrt]
theorem rcp_eq (x : α) : @rcp_S α 𝔽 x = 1 / x := by
  simp only [rcp_S, sci_one]

/- At `𝔽` every class operation is by definition the field's, but `ring` has to find that out again at each node of a term
unfolded from the generated code, which about doubles its work. So the identities below rewrite the operations that
carry the arithmetic by these equations, whose right-hand sides are written with the field's operations. -/

theorem dot_eq (a b : Vec3 α) : @dot_Vec3_Vec3 α 𝔽 a b = dot3 a b := rfl
theorem cross_eq (a b : Vec3 α) : @cross_Vec3_Vec3 α 𝔽 a b = cross3 a b := rfl
theorem l3_apply_eq (a : Lin3 α) (v : Vec3 α) : @l3_apply α 𝔽 a v =
    ⟨v.x * a.vx.x + v.y * a.vy.x + v.z * a.vz.x, v.x * a.vx.y + v.y * a.vy.y + v.z * a.vz.y,
     v.x * a.vx.z + v.y * a.vy.z + v.z * a.vz.z⟩ := rfl
theorem l2_apply_eq (a : Lin2 α) (v : Vec2 α) : @l2_apply α 𝔽 a v =
    ⟨v.x * a.vx.x + v.y * a.vy.x, v.x * a.vx.y + v.y * a.vy.y⟩ := rfl
theorem q_mul_eq (a b : Quat α) : @q_mul α 𝔽 a b =
    ⟨a.r * b.i + a.i * b.r + a.j * b.k - a.k * b.j, a.r * b.j - a.i * b.k + a.j * b.r + a.k * b.i,
     a.r * b.k + a.i * b.j - a.j * b.i + a.k * b.r, a.r * b.r - a.i * b.i - a.j * b.j - a.k * b.k⟩ := rfl
theorem q_conj_eq (a : Quat α) : @q_conj α 𝔽 a = ⟨-a.i, -a.j, -a.k, a.r⟩ := rfl

theorem sqrt_eq_of_sq (h : SqrtLaw E) (x y : α) (hy : 0 < y) (hxy : y * y = x) : E.sqrt x = y := by
  obtain ⟨hp, hm⟩ := h x (hxy ▸ mul_pos hy hy)
  exact (mul_self_inj hp.le hy.le).mp (hm.trans hxy.symm)

theorem dot_comm (a b : Vec3 α) : @dot_Vec3_Vec3 α 𝔽 a b = @dot_Vec3_Vec3 α 𝔽 b a := by
  simp only [dot_eq, dot3]; ring
theorem dot_cross_left (a b : Vec3 α) : @dot_Vec3_Vec3 α 𝔽 (@cross_Vec3_Vec3 α 𝔽 a b) a = 0 := by
  simp only [dot_eq, cross_eq, dot3, cross3]; ring
theorem dot_cross_right (a b : Vec3 α) : @dot_Vec3_Vec3 α 𝔽 (@cross_Vec3_Vec3 α 𝔽 a b) b = 0 := by
  simp only [dot_eq, cross_eq, dot3, cross3]; ring
theorem cross_dot_lagrange (a b : Vec3 α) :
    @dot_Vec3_Vec3 α 𝔽 (@cross_Vec3_Vec3 α 𝔽 a b) (@cross_Vec3_Vec3 α 𝔽 a b) =
      @dot_Vec3_Vec3 α 𝔽 a a * @dot_Vec3_Vec3 α 𝔽 b b - @dot_Vec3_Vec3 α 𝔽 a b * @dot_Vec3_Vec3 α 𝔽 a b := by
  simp only [dot_eq, cross_eq, dot3, cross3]; ring
theorem cross_unit {a b : Vec3 α} (ha : @dot_Vec3_Vec3 α 𝔽 a a = 1) (hb : @dot_Vec3_Vec3 α 𝔽 b b = 1)
    (hab : @dot_Vec3_Vec3 α 𝔽 a b = 0) :
    @dot_Vec3_Vec3 α 𝔽 (@cross_Vec3_Vec3 α 𝔽 a b) (@cross_Vec3_Vec3 α 𝔽 a b) = 1 := by
  rw [cross_dot_lagrange, ha, hb, hab, mul_one, mul_zero, sub_zero]
theorem det_mid (u v w : Vec3 α) :
    @l3_det α 𝔽 ⟨u, v, w⟩ = @dot_Vec3_Vec3 α 𝔽 v (@cross_Vec3_Vec3 α 𝔽 w u) := by
  simp only [l3_det, Lin3_det, dot_eq, cross_eq, dot3, cross3]; ring
theorem det_mid_neg (u v w : Vec3 α) :
    @l3_det α 𝔽 ⟨u, v, w⟩ = - @dot_Vec3_Vec3 α 𝔽 v (@cross_Vec3_Vec3 α 𝔽 u w) := by
  simp only [l3_det, Lin3_det, dot_eq, cross_eq, dot3, cross3]; ring

theorem normalize_eq (v : Vec3 α) : @normalize_Vec3 α 𝔽 v =
    @mul_Vec3_S α 𝔽 v (1 / E.sqrt (@dot_Vec3_Vec3 α 𝔽 v v)) := by
  simp only [normalize_Vec3, rsqrt_eq]
theorem dot_normalize (v w : Vec3 α) : @dot_Vec3_Vec3 α 𝔽 (@normalize_Vec3 α 𝔽 v) w =
    @dot_Vec3_Vec3 α 𝔽 v w * (1 / E.sqrt (@dot_Vec3_Vec3 α 𝔽 v v)) := by
  rw [normalize_eq]; simp only [mul_Vec3_S, Vec3_mk_S_S_S, dot_eq, dot3]; ring

theorem normalize_unit_of_sq {v : Vec3 α} (hn : @dot_Vec3_Vec3 α 𝔽 v v ≠ 0)
    (hs : E.sqrt (@dot_Vec3_Vec3 α 𝔽 v v) * E.sqrt (@dot_Vec3_Vec3 α 𝔽 v v) = @dot_Vec3_Vec3 α 𝔽 v v) :
    @dot_Vec3_Vec3 α 𝔽 (@normalize_Vec3 α 𝔽 v) (@normalize_Vec3 α 𝔽 v) = 1 := by
  rw [dot_normalize, dot_comm, dot_normalize]
  generalize @dot_Vec3_Vec3 α 𝔽 v v = d at *
  have hq : E.sqrt d ≠ 0 := by intro e; rw [e, mul_zero] at hs; exact hn hs.symm
  field_simp
  rw [sq, hs]

theorem normalize_unit (h : SqrtLaw E) {v : Vec3 α} (hv : 0 < @dot_Vec3_Vec3 α 𝔽 v v) :
    @dot_Vec3_Vec3 α 𝔽 (@normalize_Vec3 α 𝔽 v) (@normalize_Vec3 α 𝔽 v) = 1 :=
  normalize_unit_of_sq hv.ne' (h _ hv).2

theorem normalize_of_unit (h : SqrtLaw E) {v : Vec3 α} (hv : @dot_Vec3_Vec3 α 𝔽 v v = 1) :
    @normalize_Vec3 α 𝔽 v = v := by
  rw [normalize_eq, hv, sqrt_eq_of_sq h 1 1 one_pos (one_mul 1)]
  simp only [mul_Vec3_S, Vec3_mk_S_S_S, div_one, mul_one]

theorem v3_add_neg (v : Vec3 α) : @add_Vec3_Vec3 α 𝔽 v (@sub_Vec3 α 𝔽 v) = ⟨0, 0, 0⟩ := by
  simp only [gen_simp, add_neg_cancel]
theorem v3_neg_add (v : Vec3 α) : @add_Vec3_Vec3 α 𝔽 (@sub_Vec3 α 𝔽 v) v = ⟨0, 0, 0⟩ := by
  simp only [gen_simp, neg_add_cancel]
theorem v3_add_assoc (u v w : Vec3 α) : @add_Vec3_Vec3 α 𝔽 (@add_Vec3_Vec3 α 𝔽 u v) w =
    @add_Vec3_Vec3 α 𝔽 u (@add_Vec3_Vec3 α 𝔽 v w) := by
  simp only [gen_simp, add_assoc]
theorem v3_zero_add (v : Vec3 α) : @add_Vec3_Vec3 α 𝔽 ⟨0, 0, 0⟩ v = v := by
  simp only [gen_simp, zero_add]

theorem l3_mul_cols (a b : Lin3 α) :
    @l3_mul α 𝔽 a b = ⟨@l3_apply α 𝔽 a b.vx, @l3_apply α 𝔽 a b.vy, @l3_apply α 𝔽 a b.vz⟩ := rfl

theorem l3_inverse_eq (m : Lin3 α) :
    @l3_inverse α 𝔽 m = @l3_div α 𝔽 (@l3_adjoint α 𝔽 m) (@l3_det α 𝔽 m) := rfl
theorem l2_inverse_eq (m : Lin2 α) :
    @l2_inverse α 𝔽 m = @div_Lin2_S α 𝔽 (@l2_adjoint α 𝔽 m) (@l2_det α 𝔽 m) := rfl

theorem l3_apply_div (a : Lin3 α) (v : Vec3 α) (d : α) :
    @l3_apply α 𝔽 a (@div_Vec3_S α 𝔽 v d) = @div_Vec3_S α 𝔽 (@l3_apply α 𝔽 a v) d := by
  simp only [l3_apply_eq, div_Vec3_S, Vec3_mk_S_S_S, Vec3.mk.injEq]; refine ⟨?_, ?_, ?_⟩ <;> ring
theorem l3_div_apply (a : Lin3 α) (v : Vec3 α) (d : α) :
    @l3_apply α 𝔽 (@l3_div α 𝔽 a d) v = @div_Vec3_S α 𝔽 (@l3_apply α 𝔽 a v) d := by
  simp only [l3_apply_eq, l3_div, div_Lin3_S, Lin3_mk_Vec3_Vec3_Vec3, div_Vec3_S, Vec3_mk_S_S_S, Vec3.mk.injEq]
  refine ⟨?_, ?_, ?_⟩ <;> ring
theorem l3_apply_neg (a : Lin3 α) (v : Vec3 α) :
    @l3_apply α 𝔽 a (@sub_Vec3 α 𝔽 v) = @sub_Vec3 α 𝔽 (@l3_apply α 𝔽 a v) := by
  simp only [l3_apply_eq, sub_Vec3, Vec3_mk_S_S_S, Vec3.mk.injEq]; refine ⟨?_, ?_, ?_⟩ <;> ring
theorem l3_apply_add (a : Lin3 α) (u v : Vec3 α) : @l3_apply α 𝔽 a (@add_Vec3_Vec3 α 𝔽 u v) =
    @add_Vec3_Vec3 α 𝔽 (@l3_apply α 𝔽 a u) (@l3_apply α 𝔽 a v) := by
  simp only [l3_apply_eq, add_Vec3_Vec3, Vec3_mk_S_S_S, Vec3.mk.injEq]; refine ⟨?_, ?_, ?_⟩ <;> ring
theorem l3_apply_smul (a : Lin3 α) (c : α) (v : Vec3 α) :
    @l3_apply α 𝔽 a (@mul_S_Vec3 α 𝔽 c v) = @mul_S_Vec3 α 𝔽 c (@l3_apply α 𝔽 a v) := by
  simp only [l3_apply_eq, mul_S_Vec3, Vec3_mk_S_S_S, Vec3.mk.injEq]; refine ⟨?_, ?_, ?_⟩ <;> ring
theorem l3_apply_cols (a : Lin3 α) (v : Vec3 α) : @l3_apply α 𝔽 a v =
    @add_Vec3_Vec3 α 𝔽 (@add_Vec3_Vec3 α 𝔽 (@mul_S_Vec3 α 𝔽 v.x a.vx) (@mul_S_Vec3 α 𝔽 v.y a.vy)) (@mul_S_Vec3 α 𝔽 v.z a.vz) := rfl
theorem l3_apply_I3 (v : Vec3 α) : @l3_apply α 𝔽 I3 v = v := by
  simp only [l3_apply_eq, I3, mul_one, mul_zero, add_zero, zero_add]
theorem l3_one_mul (a : Lin3 α) : @l3_mul α 𝔽 I3 a = a := by
  simp only [l3_mul_cols, l3_apply_eq, I3, mul_one, mul_zero, add_zero, zero_add]
theorem l3_mul_one (a : Lin3 α) : @l3_mul α 𝔽 a I3 = a := by
  simp only [l3_mul_cols, l3_apply_eq, I3, one_mul, zero_mul, add_zero, zero_add]

theorem l3_mul_div (a b : Lin3 α) (d : α) :
    @l3_mul α 𝔽 a (@l3_div α 𝔽 b d) = @l3_div α 𝔽 (@l3_mul α 𝔽 a b) d := by
  simp only [l3_mul_cols, l3_div, div_Lin3_S, Lin3_mk_Vec3_Vec3_Vec3, l3_apply_div]
theorem l3_div_mul (a b : Lin3 α) (d : α) :
    @l3_mul α 𝔽 (@l3_div α 𝔽 a d) b = @l3_div α 𝔽 (@l3_mul α 𝔽 a b) d := by
  simp only [l3_mul_cols, l3_div_apply]; rfl
theorem l3_div_dI3 {d : α} (h : d ≠ 0) : @l3_div α 𝔽 (dI3 d) d = I3 := by
  simp only [gen_simp, dI3, I3, div_self h, zero_div]

theorem l2_mul_cols (a b : Lin2 α) : @l2_mul α 𝔽 a b = ⟨@l2_apply α 𝔽 a b.vx, @l2_apply α 𝔽 a b.vy⟩ := rfl
theorem l2_apply_div (a : Lin2 α) (v : Vec2 α) (d : α) :
    @l2_apply α 𝔽 a (@div_Vec2_S α 𝔽 v d) = @div_Vec2_S α 𝔽 (@l2_apply α 𝔽 a v) d := by
  simp only [l2_apply_eq, div_Vec2_S, Vec2_mk_S_S, Vec2.mk.injEq]; refine ⟨?_, ?_⟩ <;> ring
theorem l2_div_apply (a : Lin2 α) (v : Vec2 α) (d : α) :
    @l2_apply α 𝔽 (@div_Lin2_S α 𝔽 a d) v = @div_Vec2_S α 𝔽 (@l2_apply α 𝔽 a v) d := by
  simp only [l2_apply_eq, div_Lin2_S, Lin2_mk_Vec2_Vec2, div_Vec2_S, Vec2_mk_S_S, Vec2.mk.injEq]; refine ⟨?_, ?_⟩ <;> ring
theorem l2_mul_div (a b : Lin2 α) (d : α) :
    @l2_mul α 𝔽 a (@div_Lin2_S α 𝔽 b d) = @div_Lin2_S α 𝔽 (@l2_mul α 𝔽 a b) d := by
  simp only [l2_mul_cols, div_Lin2_S, Lin2_mk_Vec2_Vec2, l2_apply_div]
theorem l2_div_mul (a b : Lin2 α) (d : α) :
    @l2_mul α 𝔽 (@div_Lin2_S α 𝔽 a d) b = @div_Lin2_S α 𝔽 (@l2_mul α 𝔽 a b) d := by
  simp only [l2_mul_cols, l2_div_apply]; rfl
theorem l2_div_dI2 {d : α} (h : d ≠ 0) : @div_Lin2_S α 𝔽 (dI2 d) d = I2 := by
  simp only [gen_simp, dI2, I2, div_self h, zero_div]

theorem l3_xfmVector_eq (m : Lin3 α) (p : Vec3 α) : @l3_xfmVector α 𝔽 m p = @l3_apply α 𝔽 m p := by
  simp only [gen_simp, add_assoc]

theorem a3_mul_eq (a b : Aff3 α) : @a3_mul α 𝔽 a b =
    ⟨@l3_mul α 𝔽 a.l b.l, @add_Vec3_Vec3 α 𝔽 (@l3_apply α 𝔽 a.l b.p) a.p⟩ := rfl
theorem a3_rcp_eq (a : Aff3 α) : @a3_rcp α 𝔽 a =
    ⟨@l3_inverse α 𝔽 a.l, @sub_Vec3 α 𝔽 (@l3_apply α 𝔽 (@l3_inverse α 𝔽 a.l) a.p)⟩ := rfl

theorem a3_xfmPoint_eq (m : Aff3 α) (p : Vec3 α) :
    @a3_xfmPoint α 𝔽 m p = @add_Vec3_Vec3 α 𝔽 (@l3_apply α 𝔽 m.l p) m.p := by
  simp only [gen_simp, add_assoc]
theorem a3_from_linear_eq (L : Lin3 α) : @a3_from_linear α 𝔽 L = ⟨L, ⟨0, 0, 0⟩⟩ := by
  simp only [gen_simp, ofFieldT_ofNat, Nat.cast_zero]
theorem Aff2_mk_Lin2_eq (L : Lin2 α) : @Aff2_mk_Lin2 α 𝔽 L = ⟨L, ⟨0, 0⟩⟩ := by
  simp only [gen_simp, ofFieldT_ofNat, Nat.cast_zero]

theorem a3_translate_eq (p : Vec3 α) : @a3_translate α 𝔽 p = ⟨I3, p⟩ := by
  simp only [gen_simp, ofFieldT_ofNat, Nat.cast_zero, Nat.cast_one, I3]

theorem a3_conj_translate (L : Lin3 α) (p : Vec3 α) :
    let A := @a3_mul α 𝔽 (@a3_mul α 𝔽 (@a3_translate α 𝔽 p) ⟨L, ⟨0, 0, 0⟩⟩) (@a3_translate α 𝔽 (@sub_Vec3 α 𝔽 p))
    A.l = L ∧ @a3_xfmPoint α 𝔽 A p = p := by
  -- A = ⟨1·L·1, L(−p) + (1·0 + p)⟩, so A p = L p + (−(L p) + (0 + p))
  simp only [a3_translate_eq, a3_mul_eq, l3_one_mul, l3_mul_one, a3_xfmPoint_eq, l3_apply_neg, l3_apply_I3, true_and]
  rw [v3_zero_add, ← v3_add_assoc, v3_add_neg, v3_zero_add]
theorem a2_conj_translate (L : Lin2 α) (p : Vec2 α) :
    let A := @a2_mul α 𝔽 (@a2_mul α 𝔽 (@a2_translate α 𝔽 p) ⟨L, ⟨0, 0⟩⟩) (@a2_translate α 𝔽 (@sub_Vec2 α 𝔽 p))
    A.l = L ∧ (@l2_apply α 𝔽 A.l p).x + A.p.x = p.x ∧ (@l2_apply α 𝔽 A.l p).y + A.p.y = p.y := by
  obtain ⟨⟨a, b⟩, ⟨c, d⟩⟩ := L
  obtain ⟨x, y⟩ := p
  simp only [gen_simp, ofFieldT_ofNat, Nat.cast_zero, Nat.cast_one, mul_one, mul_zero, zero_mul, one_mul, add_zero,
    zero_add, true_and]
  refine ⟨?_, ?_⟩ <;> ring

variable (E) in
/-- the frame with third axis `N` that frame(N) and frame(N, up) build from their helper axis `v` -/
def frameOn (N v : Vec3 α) : Lin3 α :=
  ⟨@normalize_Vec3 α 𝔽 v, @normalize_Vec3 α 𝔽 (@cross_Vec3_Vec3 α 𝔽 N (@normalize_Vec3 α 𝔽 v)), N⟩

theorem frameOn_axes {N v : Vec3 α} (h : @dot_Vec3_Vec3 α 𝔽 v N = 0) :
    @dot_Vec3_Vec3 α 𝔽 (frameOn E N v).vx N = 0 ∧ @dot_Vec3_Vec3 α 𝔽 (frameOn E N v).vy N = 0 :=
  ⟨by rw [frameOn, dot_normalize, h, zero_mul], by rw [frameOn, dot_normalize, dot_cross_left, zero_mul]⟩

theorem frameOn_orthonormal (h : SqrtLaw E) {N v : Vec3 α} (hN : @dot_Vec3_Vec3 α 𝔽 N N = 1)
    (hvp : 0 < @dot_Vec3_Vec3 α 𝔽 v v) (hvN : @dot_Vec3_Vec3 α 𝔽 v N = 0) :
    let F := frameOn E N v
    @dot_Vec3_Vec3 α 𝔽 F.vx F.vx = 1 ∧ @dot_Vec3_Vec3 α 𝔽 F.vy F.vy = 1 ∧ @dot_Vec3_Vec3 α 𝔽 F.vy F.vx = 0 ∧
    @dot_Vec3_Vec3 α 𝔽 F.vx N = 0 ∧ @dot_Vec3_Vec3 α 𝔽 F.vy N = 0 ∧ F.vz = N ∧ @l3_det α 𝔽 F = 1 := by
  have hx := normalize_unit h hvp
  have hxN : @dot_Vec3_Vec3 α 𝔽 (@normalize_Vec3 α 𝔽 v) N = 0 := by rw [dot_normalize, hvN, zero_mul]
  have hy : @dot_Vec3_Vec3 α 𝔽 (@cross_Vec3_Vec3 α 𝔽 N (@normalize_Vec3 α 𝔽 v))
      (@cross_Vec3_Vec3 α 𝔽 N (@normalize_Vec3 α 𝔽 v)) = 1 :=
    cross_unit hN hx (by rw [dot_comm, hxN])
  simp only [frameOn, normalize_of_unit h hy]
  exact ⟨hx, hy, dot_cross_right _ _, hxN, dot_cross_left _ _, trivial, by rw [det_mid, hy]⟩

theorem l3_frame_eq (N : Vec3 α) : ∃ e, @l3_frame α 𝔽 N = frameOn E N (@cross_Vec3_Vec3 α 𝔽 e N) ∧
    (@dot_Vec3_Vec3 α 𝔽 N N = 1 → 0 < @dot_Vec3_Vec3 α 𝔽 (@cross_Vec3_Vec3 α 𝔽 e N) (@cross_Vec3_Vec3 α 𝔽 e N)) := by
  -- the squared lengths of the two candidates add up to N·N + N.z², so the longer one is not zero
  have key : @dot_Vec3_Vec3 α 𝔽 (@cross_Vec3_Vec3 α 𝔽 ⟨1, 0, 0⟩ N) (@cross_Vec3_Vec3 α 𝔽 ⟨1, 0, 0⟩ N) +
      @dot_Vec3_Vec3 α 𝔽 (@cross_Vec3_Vec3 α 𝔽 ⟨0, 1, 0⟩ N) (@cross_Vec3_Vec3 α 𝔽 ⟨0, 1, 0⟩ N) =
      @dot_Vec3_Vec3 α 𝔽 N N + N.z * N.z := by
    simp only [dot_eq, cross_eq, dot3, cross3]; ring
  simp only [l3_frame, frame_Vec3, OneTy_to_S, ZeroTy_to_S, Vec3_mk_S_S_S, Lin3_mk_Vec3_Vec3_Vec3, ofFieldT_ofNat,
    Nat.cast_zero, Nat.cast_one, decide_eq_true_eq]
  split_ifs with hc
  · exact ⟨⟨1, 0, 0⟩, rfl, fun hN => by linarith [mul_self_nonneg N.z]⟩
  · exact ⟨⟨0, 1, 0⟩, rfl, fun hN => by linarith [mul_self_nonneg N.z]⟩

/-- `990000009 / 1000000000` is the float literal `0.99f` of LinearSpace.h:453 as the translator prints it (nine digits) -/
theorem l3_frame_up_eq (N up : Vec3 α) : @l3_frame_up α 𝔽 N up =
    if 990000009 / 1000000000 < |@dot_Vec3_Vec3 α 𝔽 up N| then @l3_frame α 𝔽 N
    else frameOn E N (@cross_Vec3_Vec3 α 𝔽 up N) := by
  have : (OfScientific.ofScientific 990000009 true 9 : α) = 990000009 / 1000000000 := by norm_num
  simp only [l3_frame_up, frame_Vec3_Vec3, l3_frame, Lin3_mk_Vec3_Vec3_Vec3, ofFieldT_abs, ofFieldT_ofScientific, this,
    gt_iff_lt, decide_eq_true_eq, frameOn]

theorem a3_lookat_def (eye point up : Vec3 α) :
    let Z := @normalize_Vec3 α 𝔽 (@sub_Vec3_Vec3 α 𝔽 point eye)
    let U := @normalize_Vec3 α 𝔽 (@cross_Vec3_Vec3 α 𝔽 Z up)
    @a3_lookat α 𝔽 eye point up = ⟨⟨U, @cross_Vec3_Vec3 α 𝔽 U Z, Z⟩, eye⟩ := rfl

/-- the 3×3 matrix of the code for a *unit* axis (x,y,z) and sin/cos values (s,c) -/
def rotM (x y z s c : α) : Lin3 α :=
  ⟨⟨x * x + (1 - x * x) * c, x * y * (1 - c) + z * s, x * z * (1 - c) - y * s⟩,
   ⟨x * y * (1 - c) - z * s, y * y + (1 - y * y) * c, y * z * (1 - c) + x * s⟩,
   ⟨x * z * (1 - c) + y * s, y * z * (1 - c) - x * s, z * z + (1 - z * z) * c⟩⟩

theorem l3_rotate_eq_rotM (u : Vec3 α) (r : α) : @l3_rotate α 𝔽 u r =
    rotM (@normalize_Vec3 α 𝔽 u).x (@normalize_Vec3 α 𝔽 u).y (@normalize_Vec3 α 𝔽 u).z (E.sin r) (E.cos r) := by
  simp only [l3_rotate, Lin3_rotate_Vec3_S, Lin3_mk_S_S_S_S_S_S_S_S_S, Vec3_mk_S_S_S, ofFieldT_ofNat, Nat.cast_one,
    ofFieldT_sin, ofFieldT_cos, rotM]

theorem rotM_proper {x y z s c : α} (h1 : x * x + y * y + z * z = 1) (h2 : s * s + c * c = 1) :
    @l3_mul α 𝔽 (rotM x y z s c) (@l3_transposed α 𝔽 (rotM x y z s c)) = I3 ∧
    @l3_det α 𝔽 (rotM x y z s c) = 1 ∧
    @l3_apply α 𝔽 (rotM x y z s c) ⟨x, y, z⟩ = ⟨x, y, z⟩ ∧
    (rotM x y z s c).vx.x + (rotM x y z s c).vy.y + (rotM x y z s c).vz.z = 1 + 2 * c := by
  refine ⟨?_, ?_, ?_, ?_⟩
  · simp only [l3_mul_cols, l3_apply_eq, l3_transposed, Lin3_transposed, Lin3_mk_S_S_S_S_S_S_S_S_S, Vec3_mk_S_S_S, rotM, I3,
      Lin3.mk.injEq, Vec3.mk.injEq]
    -- entry (a,b) of R·Rᵀ − 1: a·b·((1−c)²·h1 − h2) off the diagonal, (a²(1−c)² + s²)·h1 + (1 − a²)·h2 on it
    refine ⟨⟨?_, ?_, ?_⟩, ⟨?_, ?_, ?_⟩, ?_, ?_, ?_⟩
    · linear_combination (x^2 * (1 - c)^2 + s^2) * h1 + (1 - x^2) * h2
    · linear_combination x * y * (1 - c)^2 * h1 - x * y * h2
    · linear_combination x * z * (1 - c)^2 * h1 - x * z * h2
    · linear_combination x * y * (1 - c)^2 * h1 - x * y * h2
    · linear_combination (y^2 * (1 - c)^2 + s^2) * h1 + (1 - y^2) * h2
    · linear_combination y * z * (1 - c)^2 * h1 - y * z * h2
    · linear_combination x * z * (1 - c)^2 * h1 - x * z * h2
    · linear_combination y * z * (1 - c)^2 * h1 - y * z * h2
    · linear_combination (z^2 * (1 - c)^2 + s^2) * h1 + (1 - z^2) * h2
  · simp only [l3_det, Lin3_det, dot_eq, cross_eq, dot3, cross3, rotM]
    -- for any axis, det R = (c + (1−c)·n)·(c² + s²·n) with n = x² + y² + z²
    linear_combination (c * s^2 + (1 - c) * c^2 + (1 - c) * s^2 * (x * x + y * y + z * z + 1)) * h1 + h2
  · simp only [l3_apply_eq, rotM, Vec3.mk.injEq]
    refine ⟨?_, ?_, ?_⟩
    · linear_combination (-c*x + x) * h1
    · linear_combination (-c*y + y) * h1
    · linear_combination (-c*z + z) * h1
  · simp only [rotM]
    linear_combination (1 - c) * h1

theorem q_conj_mul (a b : Quat α) :
    @q_conj α 𝔽 (@q_mul α 𝔽 a b) = @q_mul α 𝔽 (@q_conj α 𝔽 b) (@q_conj α 𝔽 a) := by
  simp only [q_mul_eq, q_conj_eq, Quat.mk.injEq]; refine ⟨?_, ?_, ?_, ?_⟩ <;> ring
theorem q_mul_conj (a : Quat α) : @q_mul α 𝔽 a (@q_conj α 𝔽 a) = ⟨0, 0, 0, @q_dot α 𝔽 a a⟩ := by
  simp only [q_mul_eq, q_conj_eq, q_dot, dot_Quat_Quat, Quat.mk.injEq]; refine ⟨?_, ?_, ?_, ?_⟩ <;> ring
theorem q_mul_muls (a b : Quat α) (s : α) :
    @q_mul α 𝔽 a (@q_muls α 𝔽 b s) = @q_muls α 𝔽 (@q_mul α 𝔽 a b) s := by
  simp only [q_mul_eq, q_muls, mul_Quat_S, Quat_mk_S_S_S_S, Quat.mk.injEq]; refine ⟨?_, ?_, ?_, ?_⟩ <;> ring
theorem q_rcp_eq (a : Quat α) : @q_rcp α 𝔽 a = @q_muls α 𝔽 (@q_conj α 𝔽 a) (1 / @q_dot α 𝔽 a a) := by
  simp only [q_rcp, rcp_Quat, rcp_eq]; rfl

theorem q_rotate_vec_eq (a : Quat α) (v : Vec3 α) : @q_rotate_vec α 𝔽 a v =
    @q_v α 𝔽 (@q_mul α 𝔽 (@q_mul α 𝔽 a (@Quat_mk_Vec3 α 𝔽 v)) (@q_conj α 𝔽 a)) := rfl
theorem q_sandwich_pure (a : Quat α) (v : Vec3 α) :
    @Quat_mk_Vec3 α 𝔽 (@q_v α 𝔽 (@q_mul α 𝔽 (@q_mul α 𝔽 a (@Quat_mk_Vec3 α 𝔽 v)) (@q_conj α 𝔽 a))) =
      @q_mul α 𝔽 (@q_mul α 𝔽 a (@Quat_mk_Vec3 α 𝔽 v)) (@q_conj α 𝔽 a) := by
  simp only [q_mul_eq, q_conj_eq, q_v, Quat_v, Quat_mk_Vec3, ZeroTy_to_S, Vec3_mk_S_S_S, ofFieldT_ofNat, Nat.cast_zero,
    Quat.mk.injEq, true_and]
  ring

theorem l3_from_quat_eq (q : Quat α) : @l3_from_quat α 𝔽 q =
    ⟨⟨q.r * q.r + q.i * q.i - q.j * q.j - q.k * q.k, 2 * (q.i * q.j + q.r * q.k), 2 * (q.i * q.k - q.r * q.j)⟩,
     ⟨2 * (q.i * q.j - q.r * q.k), q.r * q.r - q.i * q.i + q.j * q.j - q.k * q.k, 2 * (q.j * q.k + q.r * q.i)⟩,
     ⟨2 * (q.i * q.k + q.r * q.j), 2 * (q.j * q.k - q.r * q.i), q.r * q.r - q.i * q.i - q.j * q.j + q.k * q.k⟩⟩ := by
  simp only [gen_simp, sci_two]

theorem lerp_eq (f : α) (a b : Quat α) :
    @lerp_S_Quat_Quat α 𝔽 f a b = @q_add α 𝔽 (@q_smul α 𝔽 (1 - f) a) (@q_smul α 𝔽 f b) := by
  simp only [lerp_S_Quat_Quat, sci_one]; rfl
theorem q_add_smul_one_zero (a b : Quat α) : @q_add α 𝔽 (@q_smul α 𝔽 1 a) (@q_smul α 𝔽 0 b) = a := by
  simp only [gen_simp, one_mul, zero_mul, add_zero]
theorem q_add_smul_zero_one (a b : Quat α) : @q_add α 𝔽 (@q_smul α 𝔽 0 a) (@q_smul α 𝔽 1 b) = b := by
  simp only [gen_simp, one_mul, zero_mul, zero_add]
theorem q_dot_neg (a b : Quat α) : @q_dot α 𝔽 (@q_neg α 𝔽 a) b = - @q_dot α 𝔽 a b := by
  simp only [gen_simp]; ring
theorem q_neg_neg (a : Quat α) : @q_neg α 𝔽 (@q_neg α 𝔽 a) = a := by
  simp only [gen_simp, neg_neg]

/-- `9995 / 10000` is the literal `0.9995` of Quaternion.h:344 -/
theorem q_slerp_eq (f : α) (a b : Quat α) :
    @q_slerp α 𝔽 f a b =
      (let a' := if @q_dot α 𝔽 a b < 0 then @q_neg α 𝔽 a else a
       let d := |@q_dot α 𝔽 a b|
       if 9995 / 10000 < d then @q_normalize α 𝔽 (@lerp_S_Quat_Quat α 𝔽 f a' b)
       else @q_add α 𝔽
         (@q_smul α 𝔽 (E.cos (E.acos d * f) - d * (E.sin (E.acos d * f) / E.sin (E.acos d))) a')
         (@q_smul α 𝔽 (E.sin (E.acos d * f) / E.sin (E.acos d)) b)) := by
  have h0 : (OfScientific.ofScientific 0 true 1 : α) = 0 := by norm_num
  have h9 : (OfScientific.ofScientific 9995 true 4 : α) = 9995 / 10000 := by norm_num
  simp only [q_slerp, slerp_S_Quat_Quat, Quat_mk_Quat, Quat_assign_Quat, ofFieldT_ofScientific, h0, h9,
    ofFieldT_sin, ofFieldT_cos, ofFieldT_acos, q_dot, q_neg, q_normalize, q_add, q_smul, gt_iff_lt, decide_eq_true_eq]
  by_cases hd : @dot_Quat_Quat α 𝔽 a b < 0
  · simp only [hd, ↓reduceIte, abs_of_neg hd]
  · simp only [hd, ↓reduceIte, abs_of_nonneg (not_lt.mp hd)]

theorem q_from_matrix_eq (vx vy vz : Vec3 α) : @q_from_matrix α 𝔽 vx vy vz =
    if vx.x + vy.y + vz.z ≥ 0 then
      let t := 1 + (vx.x + vy.y + vz.z)
      let s := 1 / E.sqrt t * (1 / 2)
      ⟨(vy.z - vz.y) * s, (vz.x - vx.z) * s, (vx.y - vy.x) * s, t * s⟩
    else if vx.x ≥ max vy.y vz.z then
      let t := 1 + vx.x - (vy.y + vz.z)
      let s := 1 / E.sqrt t * (1 / 2)
      ⟨t * s, (vx.y + vy.x) * s, (vz.x + vx.z) * s, (vy.z - vz.y) * s⟩
    else if vy.y ≥ vz.z then
      let t := 1 + vy.y - (vz.z + vx.x)
      let s := 1 / E.sqrt t * (1 / 2)
      ⟨(vx.y + vy.x) * s, t * s, (vy.z + vz.y) * s, (vz.x - vx.z) * s⟩
    else
      let t := 1 + vz.z - (vx.x + vy.y)
      let s := 1 / E.sqrt t * (1 / 2)
      ⟨(vz.x + vx.z) * s, (vy.z + vz.y) * s, t * s, (vx.y - vy.x) * s⟩ := by
  simp only [gen_simp, sci_half, sci_one, ofFieldT_ofNat, Nat.cast_zero, Nat.cast_one, ofFieldT_sqrt, decide_eq_true_eq]

theorem pivot (h : SqrtLaw E) {a : α} (ha : a ≠ 0) (x : α) :
    (4 * a * x) * (1 / E.sqrt (4 * a * a) * (1 / 2)) = if 0 < a then x else -x := by
  rcases lt_or_gt_of_ne ha with hneg | hpos
  · rw [sqrt_eq_of_sq h _ (-(2 * a)) (by linarith) (by ring), if_neg hneg.not_gt]
    field_simp; ring
  · rw [sqrt_eq_of_sq h _ (2 * a) (by linarith) (by ring), if_pos hpos]
    field_simp; ring

/-- what each of the four branches returns for the matrix of a unit quaternion `q`: with `a` the component of `q` the branch
    pivots on, `t = 4a²` is positive and every component of the result is that of `4a·q` times `s = rsqrt(t)·½`, so the
    result is `q` up to the sign of `a` -/
theorem pivot_quat (h : SqrtLaw E) (q : Quat α) {a t x y z w : α} (ht : t = 4 * a * a) (hp : 0 < t)
    (hx : x = 4 * a * q.i) (hy : y = 4 * a * q.j) (hz : z = 4 * a * q.k) (hw : w = 4 * a * q.r) :
    let s := 1 / E.sqrt t * (1 / 2)
    (⟨x * s, y * s, z * s, w * s⟩ : Quat α) = q ∨ (⟨x * s, y * s, z * s, w * s⟩ : Quat α) = @q_neg α 𝔽 q := by
  have ha : a ≠ 0 := by rintro rfl; linarith
  subst ht hx hy hz hw
  simp only [pivot h ha]
  split_ifs
  · exact Or.inl rfl
  · exact Or.inr rfl

end RkVerif.C06
