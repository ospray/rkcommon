/-
Three ideas carry the file. The guards: one arithmetic fact, `guard64_iff`, about the expression all four
entry points share. The format: `Parses d e a` (decoder `d` accepts `e` with any continuation and throws on
every proper prefix of `e`), closed under sequencing, so that round trip and truncation are one induction
over `Ty`. The streams: `SimB`/`Sim` relate the reader with cursor to the decoder on plain lists, and
`FixedW.put` is the one state change of a fixed writer.
-/
import RkVerif.Model.C15

namespace RkVerif.C15

theorem sub64_of_le {a b : Nat} (h : b ≤ a) (ha : a < W) : sub64 a b = a - b := by
  rw [sub64, Nat.add_comm, Nat.add_sub_assoc h, Nat.add_mod_left,
    Nat.mod_eq_of_lt (Nat.lt_of_le_of_lt (Nat.sub_le a b) ha)]

theorem add64_of_lt {a b : Nat} (h : a + b < W) : add64 a b = a + b := Nat.mod_eq_of_lt h

theorem mul64_of_lt {a b : Nat} (h : a * b < W) : mul64 a b = a * b := Nat.mod_eq_of_lt h

/-- The guard `cursor > size() || size > size() - cursor` of read, write and reserve (getView's reduces to it,
    `Reader.rejectsView_eq`): with the cursor inside the buffer the unsigned difference does not wrap. -/
theorem guard64_iff {n c : Nat} (hn : n < W) (hc : c ≤ n) (size : Nat) :
    (c > n ∨ size > sub64 n c) ↔ ¬ c + size ≤ n := by
  rw [sub64_of_le hc hn]; omega

theorem accepts_iff {b : Bool} {p : Prop} [Decidable p] (h : b = true ↔ ¬ p) : b = false ↔ p := by
  rw [Bool.eq_false_iff, Ne, h, Decidable.not_not]

theorem leBytes_length (k n : Nat) : (leBytes k n).length = k := by
  induction k generalizing n with
  | zero => rfl
  | succ k ih => rw [leBytes, List.length_cons, ih]

theorem leVal_leBytes (k n : Nat) (h : n < 256 ^ k) : leVal (leBytes k n) = n := by
  induction k generalizing n with
  | zero => exact (Nat.lt_one_iff.mp h).symm
  | succ k ih =>
    have h2 : n / 256 < 256 ^ k := by
      rw [Nat.pow_succ] at h; omega
    rw [leBytes, leVal, ih _ h2, UInt8.toNat_ofNat', Nat.mod_mod, Nat.mod_add_div]

theorem le64_length (n : Nat) : (le64 n).length = 8 := leBytes_length 8 n
theorem leVal_le64 (n : Nat) (h : n < W) : leVal (le64 n) = n := leVal_leBytes 8 n (by simpa using h)
theorem leVal_lt (bs : List UInt8) : leVal bs < 256 ^ bs.length := by
  induction bs with
  | nil => simp [leVal]
  | cons b bs ih =>
    simp only [leVal, List.length_cons, Nat.pow_succ]
    have := b.toNat_lt
    omega

@[simp] theorem Res.bind_ok {α β : Type} (a : α) (f : α → Res β) : (Res.ok a).bind f = f a := rfl
@[simp] theorem Res.bind_throw {α β : Type} (f : α → Res β) : (Res.throw : Res α).bind f = .throw := rfl
@[simp] theorem Res.bind_fault {α β : Type} (f : α → Res β) : (Res.fault : Res α).bind f = .fault := rfl
@[simp] theorem Res.map_ok {α β : Type} (a : α) (f : α → β) : (Res.ok a).map f = .ok (f a) := rfl
@[simp] theorem Res.map_throw {α β : Type} (f : α → β) : (Res.throw : Res α).map f = .throw := rfl
@[simp] theorem Res.map_fault {α β : Type} (f : α → β) : (Res.fault : Res α).map f = .fault := rfl

theorem Res.bind_map {α β γ : Type} (x : Res α) (f : α → β) (g : β → Res γ) :
    (x.map f).bind g = x.bind (fun a => g (f a)) := by cases x <;> rfl

/-- `repeatN` in the shape of `readAll` and `decodeAll`, so that the `bind`/`map` lemmas apply to it. -/
theorem repeatN_succ {σ α : Type} (f : σ → Res (α × σ)) (n : Nat) (s : σ) :
    repeatN f (n + 1) s = (f s).bind fun p => (repeatN f n p.2).map fun q => (p.1 :: q.1, q.2) := by
  simp only [repeatN]
  cases f s with
  | ok p => obtain ⟨a, s1⟩ := p; simp only [Res.bind_ok]; cases repeatN f n s1 <;> rfl
  | throw => rfl
  | fault => rfl

theorem slice?_of_le {m : List UInt8} {off n : Nat} (h : off + n ≤ m.length) :
    slice? m off n = some ((m.drop off).take n) := by
  unfold slice?
  split
  next hz => rw [hz, List.take_zero]
  next => rfl

def Reader.Inv (r : Reader) : Prop := r.buf.length < W ∧ r.cursor ≤ r.buf.length

theorem Reader.rejects_iff (r : Reader) (h : r.Inv) (size : Nat) :
    r.rejects size = true ↔ ¬ (r.cursor + size ≤ r.buf.length) := by
  simp only [Reader.rejects, Bool.or_eq_true, decide_eq_true_eq]
  exact guard64_iff h.1 h.2 size

theorem Reader.read_spec (r : Reader) (h : r.Inv) (size : Nat) :
    r.read size =
      if r.cursor + size ≤ r.buf.length then
        .ok ((r.buf.drop r.cursor).take size, ⟨r.buf, r.cursor + size⟩)
      else .throw := by
  simp only [Reader.read, Reader.rejects_iff r h, ite_not]
  split
  next hfit => rw [slice?_of_le hfit, add64_of_lt (Nat.lt_of_le_of_lt hfit h.1)]
  next => rfl

theorem Reader.rejectsView_eq (r : Reader) (count k : Nat) (hk : 0 < k) :
    r.rejectsView count k = r.rejects (count * k) := by
  simp only [Reader.rejectsView, Reader.rejects, gt_iff_lt, Nat.div_lt_iff_lt_mul hk]

theorem Reader.rejectsView_iff (r : Reader) (h : r.Inv) (count k : Nat) (hk : 0 < k) :
    r.rejectsView count k = true ↔ ¬ (r.cursor + count * k ≤ r.buf.length) := by
  rw [Reader.rejectsView_eq r count k hk, Reader.rejects_iff r h]

/-- A view that the guard lets through is below 2^64 bytes, so the product `mul64 count k` does not wrap. -/
theorem Reader.getView_eq_read (r : Reader) (count k : Nat) (hk : 0 < k) :
    r.getView count k = r.read (count * k) := by
  unfold Reader.getView Reader.read
  rw [Reader.rejectsView_eq r count k hk]
  split
  next => rfl
  next hp =>
    simp only [Reader.rejects, Bool.or_eq_true, decide_eq_true_eq, not_or, Nat.not_lt] at hp
    rw [mul64_of_lt (Nat.lt_of_le_of_lt hp.2 (Nat.mod_lt _ (by decide)))]

theorem Reader.getView_spec (r : Reader) (h : r.Inv) (count k : Nat) (hk : 0 < k) :
    r.getView count k =
      if r.cursor + count * k ≤ r.buf.length then
        .ok ((r.buf.drop r.cursor).take (count * k), ⟨r.buf, r.cursor + count * k⟩)
      else .throw := by
  rw [Reader.getView_eq_read r count k hk, Reader.read_spec r h]

def SimB (B : List UInt8) (r : Reader) (bs : List UInt8) : Prop :=
  r.Inv ∧ r.buf = B ∧ r.buf.drop r.cursor = bs

theorem SimB.reader_eq {B : List UInt8} {r : Reader} {bs : List UInt8} (h : SimB B r bs) :
    r = ⟨B, B.length - bs.length⟩ := by
  obtain ⟨⟨_, hc⟩, rfl, rfl⟩ := h
  rw [List.length_drop, Nat.sub_sub_self hc]

/-- No constructor for `fault`: an outcome of the reader that agrees with one of the decoder is not a fault. -/
inductive Sim (B : List UInt8) {α : Type} : Res (α × Reader) → Res (α × List UInt8) → Prop
  | ok {a : α} {r : Reader} {bs : List UInt8} : SimB B r bs → Sim B (.ok (a, r)) (.ok (a, bs))
  | throw : Sim B .throw .throw

theorem Sim.bind {B : List UInt8} {α β : Type} {x : Res (α × Reader)} {y : Res (α × List UInt8)}
    {f : α × Reader → Res (β × Reader)} {g : α × List UInt8 → Res (β × List UInt8)}
    (h : Sim B x y) (hf : ∀ a r bs, SimB B r bs → Sim B (f (a, r)) (g (a, bs))) : Sim B (x.bind f) (y.bind g) := by
  cases h with
  | ok h => exact hf _ _ _ h
  | throw => exact .throw

theorem Sim.map {B : List UInt8} {α β : Type} {x : Res (α × Reader)} {y : Res (α × List UInt8)}
    (h : Sim B x y) (k : α → β) : Sim B (x.map fun p => (k p.1, p.2)) (y.map fun p => (k p.1, p.2)) := by
  cases h with
  | ok h => exact .ok h
  | throw => exact .throw

theorem read_sim {B : List UInt8} {r : Reader} {bs : List UInt8} (h : SimB B r bs) (n : Nat) :
    Sim B (r.read n) (takeN n bs) := by
  obtain ⟨hi, rfl, rfl⟩ := h
  have hc := hi.2
  rw [Reader.read_spec r hi n, takeN, List.length_drop]
  by_cases hfit : r.cursor + n ≤ r.buf.length
  · rw [if_pos hfit, if_pos (by omega)]
    exact .ok ⟨⟨hi.1, hfit⟩, rfl, (List.drop_drop ..).symm⟩
  · rw [if_neg hfit, if_neg (by omega)]
    exact .throw

theorem repeatN_sim {B : List UInt8} {α : Type} {f : Reader → Res (α × Reader)}
    {g : List UInt8 → Res (α × List UInt8)} (hfg : ∀ r bs, SimB B r bs → Sim B (f r) (g bs))
    (n : Nat) {r : Reader} {bs : List UInt8} (h : SimB B r bs) : Sim B (repeatN f n r) (repeatN g n bs) := by
  induction n generalizing r bs with
  | zero => exact .ok h
  | succ n ih =>
    rw [repeatN_succ, repeatN_succ]
    exact (hfg r bs h).bind fun a _ _ h1 => (ih h1).map (a :: ·)

theorem readVal_sim (t : Ty) {B : List UInt8} {r : Reader} {bs : List UInt8} (h : SimB B r bs) :
    Sim B (readVal t r) (decode t bs) := by
  induction t generalizing r bs with
  | pod k => exact (read_sim h k).map Val.pod
  | str =>
    simp only [readVal, decode, Reader.readLen, Res.bind_map]
    exact (read_sim h 8).bind fun l _ _ h1 => (read_sim h1 (leVal l)).map Val.str
  | vec t ih =>
    simp only [readVal, decode, Reader.readLen, Res.bind_map]
    exact (read_sim h 8).bind fun l _ _ h1 => (repeatN_sim (fun _ _ => ih) (leVal l) h1).map Val.vec
  | arr k =>
    simp only [readVal, decode, Reader.readLen, Res.bind_map]
    refine (read_sim h 8).bind fun l r1 _ h1 => ?_
    rw [Reader.getView_eq_read r1 _ 1 Nat.one_pos, Nat.mul_one]
    exact (read_sim h1 _).map (Val.arr (leVal l))

theorem readAll_sim (ts : List Ty) {B : List UInt8} {r : Reader} {bs : List UInt8} (h : SimB B r bs) :
    Sim B (readAll ts r) (decodeAll ts bs) := by
  induction ts generalizing r bs with
  | nil => exact .ok h
  | cons t ts ih => exact (readVal_sim t h).bind fun v _ _ h1 => (ih h1).map (v :: ·)

@[simp] theorem encode_pod (bs : List UInt8) : encode (.pod bs) = bs := by simp [encode, chunks]
@[simp] theorem encode_str (bs : List UInt8) : encode (.str bs) = le64 bs.length ++ bs := by
  simp [encode, chunks]
@[simp] theorem encode_arr (n : Nat) (bs : List UInt8) : encode (.arr n bs) = le64 n ++ bs := by
  simp [encode, chunks]
@[simp] theorem encode_vec (vs : List Val) : encode (.vec vs) = le64 vs.length ++ encodeL vs := by
  simp [encode, encodeL, chunks]
@[simp] theorem encodeL_nil : encodeL [] = [] := by simp [encodeL, chunksL]
@[simp] theorem encodeL_cons (v : Val) (vs : List Val) : encodeL (v :: vs) = encode v ++ encodeL vs := by
  simp [encodeL, encode, chunksL]

theorem encodeL_eq (vs : List Val) : encodeL vs = (vs.map encode).flatten := by
  induction vs with
  | nil => rfl
  | cons v vs ih => rw [encodeL_cons, ih]; rfl

theorem encodeL_append (a b : List Val) : encodeL (a ++ b) = encodeL a ++ encodeL b := by
  simp only [encodeL_eq, List.map_append, List.flatten_append]

structure Parses {α : Type} (d : List UInt8 → Res (α × List UInt8)) (e : List UInt8) (a : α) : Prop where
  ok : ∀ rest, d (e ++ rest) = .ok (a, rest)
  short : ∀ m, m < e.length → d (e.take m) = .throw

theorem Parses.pure {α : Type} (a : α) : Parses (fun bs => .ok (a, bs)) [] a :=
  ⟨fun _ => rfl, fun _ h => absurd h (Nat.not_lt_zero _)⟩

theorem parses_takeN (a : List UInt8) : Parses (takeN a.length) a a where
  ok rest := by simp [takeN]
  short m h := by simp [takeN]; omega

theorem parses_le64 (n : Nat) : Parses (takeN 8) (le64 n) (le64 n) :=
  le64_length n ▸ parses_takeN (le64 n)

/-- A cut through `e ++ e'` falls into `e`, where `d` throws, or behind it, where `d` succeeds
    and what follows is cut. -/
theorem Parses.bind {α β : Type} {d : List UInt8 → Res (α × List UInt8)}
    {f : α × List UInt8 → Res (β × List UInt8)} {e e' : List UInt8} {a : α} {b : β}
    (h : Parses d e a) (h' : Parses (fun bs => f (a, bs)) e' b) :
    Parses (fun bs => (d bs).bind f) (e ++ e') b where
  ok rest := by simp only [List.append_assoc, h.ok, Res.bind_ok, h'.ok]
  short m hm := by
    rw [List.take_append]
    by_cases hlt : m < e.length
    · rw [Nat.sub_eq_zero_of_le (Nat.le_of_lt hlt), List.take_zero, List.append_nil, h.short m hlt]; rfl
    · rw [List.take_of_length_le (Nat.le_of_not_lt hlt), h.ok, Res.bind_ok]
      exact h'.short _ (by rw [List.length_append] at hm; omega)

theorem Parses.map {α β : Type} {d : List UInt8 → Res (α × List UInt8)} {e : List UInt8} {a : α}
    (h : Parses d e a) (k : α → β) : Parses (fun bs => (d bs).map fun p => (k p.1, p.2)) e (k a) where
  ok rest := by simp only [h.ok, Res.map_ok]
  short m hm := by simp only [h.short m hm, Res.map_throw]

theorem parses_repeatN {α : Type} {d : List UInt8 → Res (α × List UInt8)} {enc : α → List UInt8}
    (as : List α) (h : ∀ a ∈ as, Parses d (enc a) a) :
    Parses (repeatN d as.length) (as.map enc).flatten as := by
  induction as with
  | nil => exact Parses.pure []
  | cons a as ih =>
    have h1 := h a (List.mem_cons_self ..)
    have h2 := ih fun x hx => h x (List.mem_cons_of_mem _ hx)
    exact funext (repeatN_succ d as.length) ▸ h1.bind (h2.map (a :: ·))

/-- Round trip and truncation in one induction over `Ty`; each case is the sequence of `takeN`s that `decode` makes. -/
theorem decode_parses (t : Ty) (v : Val) (h : WT t v) : Parses (decode t) (encode v) v := by
  induction t generalizing v with
  | pod k =>
    cases v <;> simp only [WT] at h
    subst h
    rw [encode_pod]
    exact (parses_takeN _).map Val.pod
  | str =>
    cases v <;> simp only [WT] at h
    rename_i bs
    rw [encode_str]
    refine (parses_le64 _).bind ?_
    simp only [leVal_le64 _ h]
    exact (parses_takeN bs).map Val.str
  | vec t ih =>
    cases v <;> simp only [WT] at h
    rename_i vs
    rw [encode_vec, encodeL_eq]
    refine (parses_le64 _).bind ?_
    simp only [leVal_le64 _ h.1]
    exact (parses_repeatN vs fun v hv => ih v (h.2 v hv)).map Val.vec
  | arr k =>
    cases v <;> simp only [WT] at h
    rename_i n bs
    rw [encode_arr]
    refine (parses_le64 _).bind ?_
    simp only [leVal_le64 _ h.1, mul64_of_lt h.2.2, ← h.2.1]
    exact (parses_takeN bs).map (Val.arr n)

theorem decodeAll_parses (ts : List Ty) (vs : List Val) (h : WTL ts vs) :
    Parses (decodeAll ts) (encodeL vs) vs := by
  induction ts generalizing vs with
  | nil => cases vs with
    | nil => exact Parses.pure []
    | cons => exact h.elim
  | cons t ts ih => cases vs with
    | nil => exact h.elim
    | cons v vs =>
      rw [encodeL_cons]
      exact (decode_parses t v h.1).bind ((ih vs h.2).map (v :: ·))

theorem WTL_take (ts : List Ty) (vs : List Val) (h : WTL ts vs) (j : Nat) : WTL (ts.take j) (vs.take j) := by
  induction ts generalizing vs j with
  | nil => cases vs <;> simp_all [WTL]
  | cons t ts ih =>
    cases vs with
    | nil => simp [WTL] at h
    | cons v vs =>
      cases j with
      | zero => simp [WTL]
      | succ j => simp only [WTL, List.take_succ_cons] at h ⊢; exact ⟨h.1, ih vs h.2 j⟩

theorem BufW.write_eq (w : BufW) (bs : List UInt8) : w.write bs = .ok ⟨w.buf ++ bs⟩ := by
  unfold BufW.write store?
  by_cases hz : bs.length = 0
  · have : bs = [] := List.eq_nil_of_length_eq_zero hz
    subst this; simp
  · simp [hz]

theorem BufW.writeChunks_eq (w : BufW) (cs : List (List UInt8)) :
    w.writeChunks cs = .ok ⟨w.buf ++ cs.flatten⟩ := by
  induction cs generalizing w with
  | nil => simp [BufW.writeChunks]
  | cons c cs ih => simp [BufW.writeChunks, BufW.write_eq, ih]

theorem SizeCalc.writeChunks_written (c : SizeCalc) (hc : c.written < W) (cs : List (List UInt8)) :
    (c.writeChunks cs).written = (c.written + cs.flatten.length) % W := by
  induction cs generalizing c with
  | nil =>
    simp only [SizeCalc.writeChunks, List.foldl_nil, List.flatten_nil, List.length_nil, Nat.add_zero]
    exact (Nat.mod_eq_of_lt hc).symm
  | cons b cs ih =>
    simp only [SizeCalc.writeChunks, List.foldl_cons] at ih ⊢
    rw [ih (c.write b.length) (Nat.mod_lt _ (by decide))]
    simp only [SizeCalc.write, add64, List.flatten_cons, List.length_append, Nat.mod_add_mod, Nat.add_assoc]

def FixedW.Inv (w : FixedW) : Prop := w.mem.length < W ∧ w.cursor ≤ w.mem.length

theorem srcBytes_length (n : Nat) (f : Nat → UInt8) : (srcBytes n f).length = n := by simp [srcBytes]

theorem srcBytes_listSrc (b : List UInt8) : srcBytes b.length (listSrc b) = b := by
  apply List.ext_getElem
  · simp [srcBytes]
  · intro i h1 h2
    simp [srcBytes, listSrc] at *
    simp [h2]

theorem FixedW.rejects_iff (w : FixedW) (h : w.Inv) (size : Nat) :
    w.rejects size = true ↔ ¬ (w.cursor + size ≤ w.mem.length) := by
  simp only [FixedW.rejects, Bool.or_eq_true, decide_eq_true_eq]
  exact guard64_iff h.1 h.2 size

theorem FixedW.available_eq (w : FixedW) (h : w.Inv) : w.available = w.mem.length - w.cursor :=
  sub64_of_le h.2 h.1

theorem FixedW.le_available_iff (w : FixedW) (h : w.Inv) (size : Nat) :
    size ≤ w.available ↔ w.cursor + size ≤ w.mem.length := by
  have := h.2
  rw [FixedW.available_eq w h]; omega

def FixedW.put (w : FixedW) (bs : List UInt8) : FixedW :=
  ⟨w.mem.take w.cursor ++ bs ++ w.mem.drop (w.cursor + bs.length), w.cursor + bs.length⟩

theorem FixedW.put_nil (w : FixedW) : w.put [] = w := by
  simp [FixedW.put]

theorem FixedW.write_spec (w : FixedW) (h : w.Inv) (size : Nat) (src : Nat → UInt8) :
    w.write size src =
      if w.cursor + size ≤ w.mem.length then .ok (w.put (srcBytes size src)) else .throw := by
  simp only [FixedW.write, FixedW.rejects_iff w h, ite_not]
  split
  next hfit =>
    rw [add64_of_lt (Nat.lt_of_le_of_lt hfit h.1)]
    split
    next hz => subst hz; exact congrArg _ (w.put_nil).symm
    next => simp only [FixedW.put, srcBytes_length]
  next => rfl

theorem FixedW.reserveFill_eq_write (w : FixedW) (size : Nat) (src : Nat → UInt8) :
    w.reserveFill size src = w.write size src := by
  unfold FixedW.reserveFill FixedW.reserve FixedW.write FixedW.fill
  split <;> rfl

theorem FixedW.reserveFill_spec (w : FixedW) (h : w.Inv) (size : Nat) (src : Nat → UInt8) :
    w.reserveFill size src =
      if w.cursor + size ≤ w.mem.length then .ok (w.put (srcBytes size src)) else .throw := by
  rw [FixedW.reserveFill_eq_write, FixedW.write_spec w h]

theorem FixedW.apply_spec (w : FixedW) (h : w.Inv) (op : FOp) :
    w.apply op =
      if w.cursor + op.size ≤ w.mem.length then .ok (w.put (srcBytes op.size op.src)) else .throw := by
  cases op with
  | write s f => exact FixedW.write_spec w h s f
  | reserve s f => exact FixedW.reserveFill_spec w h s f

theorem FixedW.put_inv (w : FixedW) (h : w.Inv) (bs : List UInt8) (hfit : w.cursor + bs.length ≤ w.mem.length) :
    (w.put bs).Inv ∧ (w.put bs).mem.length = w.mem.length := by
  have hl : (w.put bs).mem.length = w.mem.length := by
    simp only [FixedW.put, List.length_append, List.length_take, List.length_drop]; omega
  exact ⟨⟨hl ▸ h.1, hl ▸ hfit⟩, hl⟩

theorem FixedW.put_put {w : FixedW} {a : List UInt8} (b : List UInt8) (hfit : w.cursor + a.length ≤ w.mem.length) :
    (w.put a).put b = w.put (a ++ b) := by
  have hl : (w.mem.take w.cursor ++ a).length = w.cursor + a.length := by
    rw [List.length_append, List.length_take, Nat.min_eq_left (by omega)]
  simp only [FixedW.put, List.length_append, ← Nat.add_assoc, FixedW.mk.injEq, and_true]
  rw [List.take_left' hl, ← List.drop_drop, List.drop_left' hl, List.drop_drop, List.append_assoc _ a b]

theorem FixedW.writeChunks_spec (w : FixedW) (h : w.Inv) (cs : List (List UInt8)) :
    w.writeChunks cs =
      if w.cursor + cs.flatten.length ≤ w.mem.length then .ok (w.put cs.flatten) else .throw := by
  induction cs generalizing w with
  | nil => simp [FixedW.writeChunks, FixedW.put_nil, h.2]
  | cons b cs ih =>
    rw [FixedW.writeChunks, FixedW.write_spec w h, srcBytes_listSrc, List.flatten_cons, List.length_append,
      ← Nat.add_assoc]
    by_cases hb : w.cursor + b.length ≤ w.mem.length
    · obtain ⟨hi, hlen⟩ := FixedW.put_inv w h b hb
      rw [if_pos hb, Res.bind_ok, ih _ hi, hlen, FixedW.put_put _ hb]
      rfl
    · rw [if_neg hb, Res.bind_throw, if_neg (by omega)]

theorem FixedW.new_inv {init : List UInt8} (hcap : init.length < W) : (FixedW.new init).Inv :=
  ⟨hcap, Nat.zero_le _⟩

theorem FixedW.new_fits {init : List UInt8} {n : Nat} (h : n ≤ init.length) :
    (FixedW.new init).cursor + n ≤ (FixedW.new init).mem.length :=
  Nat.le_trans (Nat.le_of_eq (Nat.zero_add n)) h

theorem FixedW.new_put_inv {init bs : List UInt8} (hcap : init.length < W) (h : bs.length ≤ init.length) :
    ((FixedW.new init).put bs).Inv ∧ ((FixedW.new init).put bs).mem.length = init.length ∧
    ((FixedW.new init).put bs).cursor = bs.length :=
  have ⟨hi, hl⟩ := FixedW.put_inv _ (FixedW.new_inv hcap) bs (FixedW.new_fits h)
  ⟨hi, hl, Nat.zero_add _⟩

theorem FixedW.writtenView_new_put (init bs : List UInt8) :
    ((FixedW.new init).put bs).writtenView = some bs := by
  rw [FixedW.writtenView, slice?_of_le (by simp [FixedW.put, FixedW.new])]
  simp [FixedW.put, FixedW.new]

end RkVerif.C15
