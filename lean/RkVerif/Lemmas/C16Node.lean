/- C16 — round trip of elements: `parseNode` on the printed form of a well-formed element returns
   the element's tree.  The item loop is treated for an arbitrary child parser `pn` that reads
   printed elements; `parseNode` then goes by induction on its fuel, with itself one unit down
   as that `pn`. -/
import RkVerif.Lemmas.C16RT
namespace RkVerif.C16

variable {b : Array UInt8} {s f : Nat}

theorem tagOK_name {name ws0 : Bytes} {attrs : List Attr} (h : tagOK name ws0 attrs = true) :
    identOK name = true := by
  simp only [tagOK, Bool.and_eq_true] at h; exact h.1.1.1

theorem printElem_head (e : Elem) (he : elemOK e = true) :
    ∃ c r, printElem e = cLT :: c :: r ∧ isIdStart c = true := by
  cases e with
  | selfClose name ws0 attrs =>
    obtain ⟨c, r, rfl, hc, -⟩ := identOK_cons (tagOK_name he)
    exact ⟨c, _, rfl, hc⟩
  | node name ws0 attrs initWs items =>
    simp only [elemOK, Bool.and_eq_true] at he
    obtain ⟨c, r, rfl, hc, -⟩ := identOK_cons (tagOK_name he.1.1)
    exact ⟨c, _, rfl, hc⟩

theorem Stop.elem {p : UInt8 → Bool} (e : Elem) {t : Bytes} (hp : p cLT = false) :
    Stop p (printElem e ++ t) := by
  cases e <;> exact .cons hp

/-- the part of `parseNode` that both element forms share: `<name ws0 attrs`, up to the `/` or `>`.

    The `do`-block is the text of `parseNodeWith` up to that point, with the rest of the body as
    the continuation `K`: a use (`refine openTag_ev … ?_`) unifies it with the unfolded model
    function, so it has to follow the model word for word, and an edit of the model shows as a
    failure at the use, not here.  `textRun_ev` (part of `nodeLoop`) and `body_ev` (part of
    `parseXMLWith`) are stated the same way. -/
theorem openTag_ev {name ws0 : Bytes} {attrs : List Attr} {d : UInt8} {y r : Bytes} {nd : Node}
    {K : Bytes → List (Bytes × Bytes) → XmlM Node} (ht : tagOK name ws0 attrs = true)
    (hd : d = cSlash ∨ d = cGT) (hf : b.size ≤ f + s)
    (hK : Ev b (s + 1 + name.length + ws0.length + (printAttrs attrs).length)
      (K name (propsOf [] attrs)) (d :: y) r nd) :
    Ev b s (do consume cLT
               match ← parseIdentifier f with
               | none => fail .runtimeError
               | some name => do
                 skipWhites f
                 let props ← propLoop parseString f []
                 K name props)
      (cLT :: (name ++ (ws0 ++ (printAttrs attrs ++ d :: y)))) r nd := by
  simp only [tagOK, Bool.and_eq_true] at ht
  obtain ⟨⟨⟨hn, hw0⟩, hne⟩, hattrs⟩ := ht
  have hd : isIdChar d = false ∧ isWhite d = false ∧ isIdStart d = false := by
    rcases hd with rfl | rfl <;> decide
  have := identOK_pos hn
  refine .cons consume_ev (.bind (parseIdentifier_ev hn (.append (.ws hw0 fun e => ?_)) (by omega)) ?_)
  · cases attrs with
    | nil => exact .cons hd.1
    | cons a as => simp [e] at hne
  refine .bind (skipWhites_ev hw0 (.append (.attrs hattrs (.cons hd.2.1))) (by omega)) ?_
  exact .bind (propLoop_ev attrs hd.2.2 hd.2.1 hattrs (by omega)) hK

theorem items_head_noText (items : Items) (x : Bytes) (h : itemsOK false items = true) :
    Stop (fun c => c != cLT && c != 0) (printItems items ++ cLT :: x) := by
  cases items with
  | nil => exact .cons rfl
  | child e w rest =>
    rw [printItems, List.append_assoc]
    exact .elem e rfl
  | comment body w rest => exact .cons rfl
  | text t w rest => simp [itemsOK] at h

theorem textOK_spec {tx : Bytes} (h : textOK tx = true) :
    allB (fun c => c != cLT && c != 0) tx = true ∧ lastNotSpace tx = true ∧
      ∃ c tr, tx = c :: tr ∧ isWhite c = false := by
  cases tx with
  | nil => cases h
  | cons c tr =>
    simp only [textOK, Bool.and_eq_true, Bool.not_eq_true'] at h
    exact ⟨h.1.2, h.2, c, tr, rfl, h.1.1⟩

/-- how `parseNode` reads a text run `tx`: the scan runs on over the white space `w` behind it, up
    to the next `<`, and is trimmed back to the end of `tx` (the block is `nodeLoop`'s, word for
    word: see `openTag_ev`) -/
theorem textRun_ev {tx w y r : Bytes} {K : Bytes → XmlM Node} {nd : Node} (htx : textOK tx = true)
    (hw : wsOK w = true) (hy : Stop (fun c => c != cLT && c != 0) (y ++ r)) (hf : b.size + 1 ≤ f + s)
    (hK : Ev b (s + tx.length + w.length) (K tx) y r nd) :
    Ev b s (do let bg ← pos
               contentLoop f
               let en ← pos
               let en' ← trimBack en
               let v ← makeString bg en'
               K v) (tx ++ (w ++ y)) r nd := fun h => by
  obtain ⟨hall, hlast, -⟩ := textOK_spec htx
  have hscan : allB (fun c => c != cLT && c != 0) (tx ++ w) = true := by
    rw [allB_append, hall]
    refine allB_imp (fun c hc => ?_) hw
    rw [Bool.and_eq_true, bne_iff, bne_iff]
    exact ⟨ne_of_class hc rfl, ne_of_class hc rfl⟩
  have h' : Suf b s (tx ++ (w ++ (y ++ r))) := by simpa using h
  have hne : w ++ (y ++ r) ≠ [] := by obtain ⟨c, t, e, -⟩ := hy; simp [e]
  revert h
  rw [contentLoop_eq, ← List.append_assoc]
  refine Ev.pos (.bind (scanWhile_ev _ hy hscan hf) (.pos ?_))
  rw [List.length_append, ← Nat.add_assoc]
  exact .pre (fun _ => trimBack_ev h' hlast hw) (.pre (makeString_ev h' hne
    (allB_imp (fun c hc => by rw [Bool.and_eq_true] at hc; exact hc.2) hall) rfl) hK)

theorem nodeLoop_pn_ev {pn : XmlM Node} {s0 : Nat}
    (hpn : ∀ e s t, s0 ≤ s → elemOK e = true → Ev b s pn (printElem e) t (eraseElem e))
    {name : Bytes} (hn : identOK name = true) {props : List (Bytes × Bytes)} {t : Bytes} (f : Nat) :
    ∀ {items : Items} {s : Nat} {w content : Bytes} {children : List Node} {tx : Bool},
    wsOK w = true → itemsOK tx items = true → (tx = true → content = []) → s0 ≤ s →
    b.size + 2 ≤ f + s →
    Ev b s (nodeLoop pn name props f content children)
      (w ++ (printItems items ++ cLT :: cSlash :: (name ++ [cGT]))) t
      { name, props, content := if tx then contentOf items else content,
        children := children ++ childrenOf items } := by
  induction f with
  | zero =>
    intro items s w _ _ _ _ _ _ _ hf h
    have := h.le (by simp)
    omega
  | succ f ih =>
    intro items s w content children tx hw hi hct hs0 hf
    cases items with
    | nil =>
      have hc : (if tx then contentOf .nil else content) = content := by
        cases tx
        · rfl
        · exact (hct rfl).symm
      rw [hc, childrenOf, List.append_nil, printItems, List.nil_append]
      refine .bind (skipWhites_ev hw (.cons rfl) (by omega)) ?_
      refine .pre (skipComment_false fun _ => ⟨_, _, rfl, by decide⟩) ?_
      refine .pre (peekAt_ev rfl) (.pre (peekAt_ev rfl) (.bind (consumeWord_ev [cLT, cSlash]) ?_))
      refine .bind (parseIdentifier_ev hn (.cons rfl) (by omega)) ?_
      simp only [Option.getD_some, bne_self_eq_false, Bool.false_eq_true, if_false]
      exact .post (consumeWord_ev [cGT]) .pure
    | child e wA rest =>
      simp only [itemsOK, Bool.and_eq_true] at hi
      obtain ⟨⟨he, hwA⟩, hrest⟩ := hi
      obtain ⟨c, r, ee, hc⟩ := printElem_head e he
      have hlen := congrArg List.length ee
      rw [List.length_cons] at hlen
      -- the look-ahead reads the child's first two bytes (`ee`); `hpn` wants `printElem e` back
      rw [printItems, List.append_assoc, List.append_assoc, contentOf, childrenOf,
        List.append_cons children, ee]
      refine .bind (skipWhites_ev hw (.cons rfl) (by omega)) ?_
      refine .pre (skipComment_false fun _ => ⟨_, _, rfl, ne_of_class hc rfl⟩) ?_
      refine .pre (peekAt_ev rfl) (.pre (peekAt_ev rfl) ?_)
      rw [if_neg (mt beq_iff.1 (ne_of_class hc rfl)), ← ee]
      exact .bind (hpn e _ _ (by omega) he) (ih hwA hrest hct (by omega) (by omega))
    | comment body wA rest =>
      simp only [itemsOK, Bool.and_eq_true] at hi
      obtain ⟨⟨hb, hwA⟩, hrest⟩ := hi
      have := printComment_length body
      rw [printItems, List.append_assoc, List.append_assoc, contentOf, childrenOf]
      refine .bind (skipWhites_ev hw (.cons rfl) (by omega)) ?_
      exact .bind (skipComment_true hb (by omega)) (ih hwA hrest hct (by omega) (by omega))
    | text tt wA rest =>
      simp only [itemsOK, Bool.and_eq_true] at hi
      obtain ⟨⟨⟨rfl, htt⟩, hwA⟩, hrest⟩ := hi
      cases hct rfl
      obtain ⟨hc0, -, c0, tr, rfl, hc0w⟩ := textOK_spec htt
      simp only [allB_cons, Bool.and_eq_true, bne_iff] at hc0
      rw [printItems, List.append_assoc, List.append_assoc, contentOf, childrenOf]
      refine .bind (skipWhites_ev hw (.cons hc0w) (by omega)) ?_
      refine .pre (skipComment_false fun e => absurd e hc0.1.1) (.pre (peekAt_ev rfl) ?_)
      rw [if_neg (mt beq_iff.1 hc0.1.1), if_neg (mt beq_iff.1 hc0.1.2), if_neg (by decide)]
      refine textRun_ev htt hwA (items_head_noText rest _ hrest).append (by omega) ?_
      exact ih (w := []) rfl hrest (fun h => by cases h) (by simp; omega) (by simp; omega)

theorem parseNode_ev (f : Nat) : ∀ (e : Elem) {b : Array UInt8} {s : Nat} {t : Bytes},
    elemOK e = true → b.size + 1 ≤ f + s →
    Ev b s (parseNodeWith parseString f) (printElem e) t (eraseElem e) := by
  induction f with
  | zero =>
    intro e b s t he hf h
    obtain ⟨c, r, ee, -⟩ := printElem_head e he
    have := h.le (by simp [ee])
    omega
  | succ f ih =>
    intro e b s t he hf
    cases e with
    | selfClose name ws0 attrs =>
      refine openTag_ev he (.inl rfl) (by omega) ?_
      exact .pre peek_ev (.post (consumeWord_ev [cSlash, cGT]) .pure)
    | node name ws0 attrs initWs items =>
      simp only [elemOK, Bool.and_eq_true] at he
      refine openTag_ev he.1.1 (.inr rfl) (by omega) (.pre peek_ev (.cons (consumeWord_ev [cGT]) ?_))
      exact nodeLoop_pn_ev (s0 := s + 1) (fun e s' t hs' he => ih e he (by omega))
        (tagOK_name he.1.1) f he.1.2 he.2 (fun _ => rfl) (by omega) (by omega)

theorem nodeLoop_ev (items : Items) : ∀ (b : Array UInt8) (s f f0 : Nat) (w t name : Bytes)
    (props : List (Bytes × Bytes)) (content : Bytes) (children : List Node) (tx : Bool),
    Suf b s (w ++ (printItems items ++ cLT :: cSlash :: (name ++ cGT :: t))) →
    wsOK w = true → identOK name = true → itemsOK tx items = true → (tx = true → content = []) →
    b.size - s + 2 ≤ f → f ≤ f0 →
    nodeLoop (parseNodeWith parseString f0) name props f content children b s =
      .ok ({ name, props, content := if tx then contentOf items else content,
             children := children ++ childrenOf items },
           s + w.length + (printItems items).length + (name.length + 3)) :=
  fun b s f f0 _ _ _ _ _ _ _ h hw hn hi hct hf hf0 => by
    rw [nodeLoop_pn_ev (s0 := s) (fun e s' t _ he => parseNode_ev f0 e he (by omega))
      hn f hw hi hct (Nat.le_refl s) (by omega) (by simpa using h)]
    simp
    omega

end RkVerif.C16
