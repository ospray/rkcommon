/-
AsyncTaskM: the inductive invariant `AInv` for every well-formed class table.
ScheduleM: the life cycle of one task as a relation (`TStep`, read off `sNext` once by `sNext_internal`),
the per-task invariant `TInv` and the weight `Task.w` along it, and the absence of stuck states.
-/
import RkVerif.Model.C02
namespace RkVerif.C02

theorem reach_of_runActs {σ α : Type} {next : σ → α → Option σ} {init : σ} {acts : List α} {s : σ}
    (h : runActs next init acts = some s) : Reach next init s := by
  induction acts generalizing s with
  | nil => cases h; exact .init
  | cons a earlier ih =>
    simp only [runActs] at h
    split at h
    · next s0 h0 => exact .step a (ih h0) h
    · cases h

theorem exists_reach_of_runActs {σ α : Type} {next : σ → α → Option σ} {init : σ} (acts : List α)
    {P : σ → Prop} (h : ∃ s, runActs next init acts = some s ∧ P s) : ∃ s, Reach next init s ∧ P s :=
  let ⟨s, hr, hp⟩ := h
  ⟨s, reach_of_runActs hr, hp⟩

theorem Reach.getD {σ α : Type} {next : σ → α → Option σ} {init s : σ} (hs : Reach next init s)
    (o : Option σ) (ho : ∀ s', o = some s' → ∃ a, next s a = some s') : Reach next init (o.getD s) := by
  cases o with
  | none => exact hs
  | some s' => obtain ⟨a, ha⟩ := ho s' rfl; exact .step a hs ha

theorem reach_inv {σ α : Type} {next : σ → α → Option σ} {init : σ} (P : σ → Prop)
    (h0 : P init) (hstep : ∀ s a s', P s → next s a = some s' → P s') :
    ∀ s, Reach next init s → P s := by
  intro s h
  induction h with
  | init => exact h0
  | step a _ hn ih => exact hstep _ a _ ih hn

theorem Slot.isRes_iff {r : Slot} : r.isRes = true ↔ r = .res := by cases r <;> simp [Slot.isRes]

theorem okProg_nil {a f : Bool} : okProg [] a f = true ↔ a = true ∧ f = true := by simp [okProg]

theorem okProg_assignRet {rest : List TaskOp} {a f : Bool} :
    okProg (.assignRet :: rest) a f = true ↔ f = false ∧ okProg rest true f = true := by simp [okProg]

theorem okProg_setFinished {rest : List TaskOp} {a f : Bool} :
    okProg (.setFinished :: rest) a f = true ↔ a = true ∧ okProg rest a true = true := by simp [okProg]

theorem okProg_fin {l : List TaskOp} {a : Bool} (h : okProg l a true = true) : a = true := by
  cases l with
  | nil => exact (okProg_nil.mp h).1
  | cons op rest =>
    cases op
    · exact nomatch (okProg_assignRet.mp h).1
    · exact (okProg_setFinished.mp h).1

theorem getEntry_cases {t : Table} (s : ASt) (hk : t.getKind ≠ .noWait) :
    getEntry t s = .getWait ∨ getEntry t s = .getRead ∧ s.fin = true := by
  unfold getEntry
  split
  · cases hf : s.fin <;> simp
  · exact .inl rfl
  · contradiction

def CtlInv (s : ASt) : Prop :=
  match s.ctl with
  | .ctor rest => okOrder rest s.finBuilt (!s.ret.isRaw) s.started = true
  | .idle | .getWait | .inWait | .dtorWait => s.started = true
  | .getRead => s.started = true ∧ s.fin = true
  | .dtorMembers | .gone => s.completed = true

theorem CtlInv.frame {s s' : ASt} (h : CtlInv s) (hc : s'.ctl = s.ctl) (hb : s'.finBuilt = s.finBuilt)
    (hr : s'.ret.isRaw = s.ret.isRaw) (hs : s'.started = s.started)
    (hf : s.fin = true → s'.fin = true) (hd : s.completed = true → s'.completed = true) : CtlInv s' := by
  unfold CtlInv at h ⊢
  rw [hc, hb, hr, hs]
  revert h
  cases s.ctl with
  | getRead => exact fun h => ⟨h.1, hf h.2⟩
  | dtorMembers | gone => exact hd
  | _ => exact id

theorem CtlInv.not_gone {s : ASt} (h : CtlInv s) (hc : s.completed = false) : s.ctl.isGone = false := by
  cases hs : s.ctl with
  | gone => rw [CtlInv, hs] at h; exact nomatch hc.symm.trans h
  | _ => rfl

theorem construct_jobFinished (t : Table) {s : ASt} (hf : s.fin = false) :
    construct t s .jobFinished = { s with finBuilt := true } := by
  simp [construct, hf]

structure AInv (s : ASt) : Prop where
  err : s.err = false
  late : s.lateWrite = false
  bad : s.badGet = false
  lied : s.finishedLied = false
  prog : okProg s.trest s.ret.isRes s.fin = true
  notStarted : s.started = false → s.fin = false ∧ s.ret.isRes = false
  compl : s.completed = true → s.fin = true
  built : s.started = true → s.finBuilt = true ∧ s.ret.isRaw = false
  ctl : CtlInv s

theorem AInv.isRes_of_fin {s : ASt} (h : AInv s) (hf : s.fin = true) : s.ret.isRes = true :=
  okProg_fin (hf ▸ h.prog)

theorem ainv_init (t : Table) (hwf : t.wf = true) : AInv (aInit t) := by
  simp only [Table.wf, Bool.and_eq_true] at hwf
  obtain ⟨⟨⟨⟨ho, hfi⟩, hp⟩, _⟩, _⟩ := hwf
  constructor <;> simp [aInit, CtlInv, Slot.isRaw, Slot.isRes, *]

theorem AInv.construct (t : Table) {s : ASt} (h : AInv s) {m : Member} {rest : List Member}
    (hc : s.ctl = .ctor (m :: rest)) : AInv { construct t s m with ctl := .ctor rest } := by
  have hi := h.ctl
  simp only [CtlInv, hc] at hi
  cases m <;> simp only [okOrder, Bool.and_eq_true, Bool.not_eq_true', Bool.not_eq_false'] at hi
  · obtain ⟨⟨hs, _⟩, ho⟩ := hi
    rw [construct_jobFinished t (h.notStarted hs).1]
    exact { h with
      built := fun h1 => nomatch hs.symm.trans h1
      ctl := ho }
  · obtain ⟨⟨hs, _⟩, ho⟩ := hi
    obtain ⟨hfin, hres⟩ := h.notStarted hs
    exact { h with
      prog := show okProg s.trest false s.fin = true from hres ▸ h.prog
      notStarted := fun _ => ⟨hfin, rfl⟩
      built := fun h1 => nomatch hs.symm.trans h1
      ctl := ho }
  · obtain ⟨⟨⟨hf, hr⟩, _⟩, ho⟩ := hi
    exact { h with
      notStarted := fun h0 => nomatch h0
      built := fun _ => ⟨hf, hr⟩
      ctl := ho }

/-- The task runs between the construction of `taskImpl`, so what it writes has been built, and its completion,
    before which the destructor does not return; its steps need nothing of the table. -/
theorem AInv.task {t : Table} {s s' : ASt} (h : AInv s) (hn : aNext t s .task = some s') : AInv s' := by
  simp only [aNext, Option.ite_none_right_eq_some, Bool.and_eq_true, Bool.not_eq_true'] at hn
  obtain ⟨⟨hst, hnc⟩, hn⟩ := hn
  obtain ⟨hfb, hraw⟩ := h.built hst
  have hg := h.ctl.not_gone hnc
  have hns {p : Prop} (h0 : s.started = false) : p := nomatch h0.symm.trans hst
  split at hn <;> cases hn
  · next op rest ht =>
    have hp := ht ▸ h.prog
    cases op
    · obtain ⟨hf, hp⟩ := okProg_assignRet.mp hp
      exact { h with
        err := by simp [taskOp, h.err, hraw, hg]
        late := by simp [taskOp, h.late, hf]
        prog := hp
        notStarted := hns
        built := fun _ => ⟨hfb, rfl⟩
        ctl := h.ctl.frame rfl rfl hraw.symm rfl id id }
    · obtain ⟨_, hp⟩ := okProg_setFinished.mp hp
      exact { h with
        err := by simp [taskOp, h.err, hfb, hg]
        prog := hp
        notStarted := hns
        compl := fun _ => rfl
        ctl := h.ctl.frame rfl rfl rfl rfl (fun _ => rfl) id }
  · next ht =>
    exact { h with
      err := by simp [h.err, hg]
      compl := fun _ => (okProg_nil.mp (ht ▸ h.prog)).2
      ctl := h.ctl.frame rfl rfl rfl rfl id (fun _ => rfl) }

theorem ainv_step (t : Table) (hwf : t.wf = true) (s : ASt) (a : AAct) (s' : ASt)
    (h : AInv s) (hn : aNext t s a = some s') : AInv s' := by
  simp only [Table.wf, Bool.and_eq_true, bne_iff_ne] at hwf
  obtain ⟨⟨_, hdw⟩, hk⟩ := hwf
  cases a
  case task => exact h.task hn
  -- The other actions are enabled at these positions only, and only these goals survive the `simp only`:
  -- `ctl` at `ctor _`, `getWait`, `getRead`, `inWait`, `dtorWait`, `dtorMembers` (the three waits only once the
  -- task has completed); `callFinished`, `callGet`, `callWait`, `callDtor` at `idle`.
  all_goals
    have hi := h.ctl
    cases hc : s.ctl <;>
      simp only [aNext, CtlInv, hc, hdw, Option.ite_none_right_eq_some, Option.some.injEq, reduceCtorEq,
        if_true] at hn hi
  case ctl.ctor rest =>
    cases rest with
    | nil => cases hn; exact { h with ctl := hi }
    | cons m rest => cases hn; exact h.construct t hc
  case ctl.getWait => obtain ⟨hd, rfl⟩ := hn; exact { h with ctl := ⟨hi, h.compl hd⟩ }
  case ctl.getRead =>
    cases hn
    have hres := h.isRes_of_fin hi.2
    exact { h with
      err := by simp [h.err, (h.built hi.1).2]
      bad := by simp [h.bad, hres]
      ctl := hi.1 }
  case ctl.inWait => obtain ⟨_, rfl⟩ := hn; exact { h with ctl := hi }
  case ctl.dtorWait => obtain ⟨hd, rfl⟩ := hn; exact { h with ctl := hd }
  case ctl.dtorMembers => cases hn; exact { h with ctl := hi }
  case callFinished.idle =>
    cases hn
    exact { h with
      lied := by cases hf : s.fin <;> simp [h.lied, h.isRes_of_fin, hf]
      ctl := hi }
  case callGet.idle =>
    cases hn
    rcases getEntry_cases s hk with hg | ⟨hg, hf⟩ <;> rw [hg]
    · exact { h with ctl := hi }
    · exact { h with ctl := ⟨hi, hf⟩ }
  case callWait.idle => cases hn; exact { h with ctl := hi }
  case callDtor.idle => cases hn; exact { h with ctl := hi }

theorem ainv_reach {t : Table} (hwf : t.wf = true) {s : ASt} (hs : Reach (aNext t) (aInit t) s) : AInv s :=
  reach_inv AInv (ainv_init t hwf) (ainv_step t hwf) s hs

theorem updAt_eq_modify (l : List Task) (i : Nat) (f : Task → Task) : updAt l i f = l.modify i f := by
  induction l generalizing i with
  | nil => simp [updAt]
  | cons t rest ih => cases i <;> simp [updAt, ih]

theorem getElem?_updAt_self {l : List Task} {i : Nat} {f : Task → Task} {t : Task} (h : l[i]? = some t) :
    (updAt l i f)[i]? = some (f t) := by
  rw [updAt_eq_modify, List.getElem?_modify_eq, h]; rfl

theorem updAt_eq_set {l : List Task} {i : Nat} {f : Task → Task} {t : Task} (h : l[i]? = some t) :
    updAt l i f = l.set i (f t) := by
  rw [updAt_eq_modify, List.modify_eq_set, h]; rfl

theorem length_updAt (l : List Task) (i : Nat) (f : Task → Task) : (updAt l i f).length = l.length := by
  rw [updAt_eq_modify, List.length_modify]

theorem total_set {l : List Task} {i : Nat} {t x : Task} (h : l[i]? = some t) :
    total (l.set i x) + t.w = total l + x.w := by
  induction l generalizing i with
  | nil => simp at h
  | cons t0 rest ih =>
    cases i <;> simp only [List.getElem?_cons_zero, List.getElem?_cons_succ, Option.some.injEq] at h
    · subst h; simp only [List.set, total]; omega
    · have := ih h; simp only [List.set, total]; omega

structure TInv (c : SCfg) (t : Task) : Prop where
  /-- only the owner list releases a task, and only one that is done and whose schedule() has returned:
      nobody is left to touch it (`TStep.live`) -/
  dead : t.live = false → t.phase = .done ∧ t.cstage = .released ∧ t.recorded = true
  /-- the owner list gets the task as the last thing schedule() does -/
  recd : t.recorded = true → t.cstage = .released
  /-- m_RunningCount is 1 from AddTaskSetToPipe to the scheduler's decrement; the guarded sweep reads it -/
  count : t.count = (if t.phase = .fresh ∨ t.phase = .done then 0 else 1)
  /-- exactly once: this is what `schedule_once` reads off -/
  runs : t.runs = (if t.phase = .ran ∨ t.phase = .done then 1 else 0)
  toAdd : t.cstage = .toAdd ↔ t.phase = .fresh
  adding : t.cstage = .adding → t.byCaller = true ∧ (t.phase = .running ∨ t.phase = .ran)
  /-- liveness without workers (`not_stuck`): when the calling thread is the one that has to run the task, it is
      still inside schedule() (executing it inline or in WaitforTask) until the task is done, so `popC` is enabled -/
  awaited : (c.inlineNoWorkers && c.workers == 0) = true → t.phase ≠ .done → t.phase ≠ .fresh →
      t.cstage = .adding ∨ t.cstage = .waiting

structure SInv (c : SCfg) (s : SSt) : Prop where
  uaf : s.uaf = false
  tasks : ∀ t ∈ s.tasks, TInv c t

variable {c : SCfg} {t t' : Task} {touches : Bool}

theorem afterAdd_cases (c : SCfg) :
    (afterAdd c = .waiting ∧ (c.inlineNoWorkers && c.workers == 0) = true) ∨
      (afterAdd c = .recording ∧ (c.inlineNoWorkers && c.workers == 0) = false) := by
  unfold afterAdd
  split
  · next h => exact .inl ⟨rfl, h⟩
  · next h => exact .inr ⟨rfl, Bool.eq_false_iff.mpr h⟩

theorem afterAdd_ne (c : SCfg) : afterAdd c ≠ .toAdd ∧ afterAdd c ≠ .adding := by
  rcases afterAdd_cases c with ⟨h, _⟩ | ⟨h, _⟩ <;> simp [h]

theorem onTask_eq_some {s s' : SSt} {i : Nat} {guard : Task → Bool} {f : Task → Task} :
    onTask s i guard f touches = some s' ↔ ∃ t, s.tasks[i]? = some t ∧ guard t = true ∧
      s' = { tasks := updAt s.tasks i f, uaf := s.uaf || (touches && !t.live) } := by
  cases ht : s.tasks[i]? <;> simp [onTask, ht, @eq_comm _ s']

theorem onTask_some {s : SSt} {i : Nat} {guard : Task → Bool} {f : Task → Task} {t : Task}
    (ht : s.tasks[i]? = some t) (hg : guard t = true) : (onTask s i guard f touches).isSome = true := by
  rw [onTask_eq_some.mpr ⟨t, ht, hg, rfl⟩]; rfl

/-- The life cycle of one task: the internal actions of `sNext` as seen from the task they act on, each
    under its guard; `touches` says whether the step accesses the allocation. -/
inductive TStep (c : SCfg) (t : Task) : Task → Bool → Prop
  | add (inl : Bool) : t.phase = .fresh ∧ t.cstage = .toAdd →
      TStep c t { t with count := 1, phase := if inl then .running else .queued, byCaller := inl,
                         cstage := if inl then .adding else afterAdd c } true
  | pop (b : Bool) : t.phase = .queued → TStep c t { t with phase := .running, byCaller := b } true
  | run : t.phase = .running →
      TStep c t { t with phase := .ran, runs := t.runs + 1, live := t.live && !c.selfDelete } true
  | dec : t.phase = .ran →
      TStep c t { t with phase := .done, count := t.count - 1,
                         cstage := if t.cstage == .adding then afterAdd c else t.cstage } true
  | waitRet : t.cstage = .waiting ∧ (t.phase = .done ∨ t.live = false) →
      TStep c t { t with cstage := .recording } true
  | record : t.cstage = .recording →
      TStep c t { t with cstage := .released, recorded := t.recorded || c.detached } false
  | reap : ((c.detached = true ∧ t.recorded = true) ∧ t.live = true) ∧ (t.count = 0 ∨ c.reapGuarded = false) →
      TStep c t { t with live := false } true

theorem sNext_internal {s s' : SSt} {a : SAct} (hint : a.internal = true) (hn : sNext c s a = some s') :
    ∃ i t t' touches, s.tasks[i]? = some t ∧ TStep c t t' touches ∧
      s' = { tasks := s.tasks.set i t', uaf := s.uaf || (touches && !t.live) } := by
  have key {i guard f touches} (hn : onTask s i guard f touches = some s')
      (hstep : ∀ t, guard t = true → TStep c t (f t) touches) :
      ∃ i t t' touches, s.tasks[i]? = some t ∧ TStep c t t' touches ∧
        s' = { tasks := s.tasks.set i t', uaf := s.uaf || (touches && !t.live) } :=
    let ⟨t, ht, hg, e⟩ := onTask_eq_some.mp hn
    ⟨i, t, f t, touches, ht, hstep t hg, updAt_eq_set ht ▸ e⟩
  cases a <;> simp only [sNext, Option.ite_none_right_eq_some] at hn
  case sched => cases hint
  case add i inl => exact key hn fun t hg => .add inl (by simpa using hg)
  case popW i => exact key hn.2 fun t hg => .pop false (eq_of_beq hg)
  case popC i => exact key hn.2 fun t hg => .pop true (eq_of_beq hg)
  case run i => exact key hn fun t hg => .run (eq_of_beq hg)
  case dec i => exact key hn fun t hg => .dec (eq_of_beq hg)
  case waitRet i => exact key hn fun t hg => .waitRet (by simpa using hg)
  case record i => exact key hn fun t hg => .record (eq_of_beq hg)
  case reap i => exact key hn fun t hg => .reap (by simpa using hg)

theorem TStep.live (h : TInv c t) (hs : TStep c t t' touches) : t.live = true := by
  refine Bool.of_not_eq_false fun hl => ?_
  obtain ⟨hd, hr, _⟩ := h.dead hl
  cases hs with
  | add _ hg => simp [hd] at hg
  | pop _ hp | run hp | dec hp => simp [hd] at hp
  | waitRet hg => simp [hr] at hg
  | record hc => simp [hr] at hc
  | reap hg => simp [hl] at hg

theorem TStep.tinv (hsd : c.selfDelete = false) (hrg : c.reapGuarded = true) (h : TInv c t)
    (hs : TStep c t t' touches) : TInv c t' := by
  have hl := hs.live h
  cases hs with
  | add inl hg =>
    have hr : t.recorded = false := Bool.eq_false_iff.mpr fun hr =>
      nomatch (h.recd hr).symm.trans hg.2
    exact {
      dead := by simp [hl]
      recd := by simp [hr]
      count := by cases inl <;> rfl
      runs := by cases inl <;> simpa [hg.1] using h.runs
      toAdd := by cases inl <;> simp [afterAdd_ne]
      adding := by cases inl <;> simp [afterAdd_ne]
      awaited := fun hw _ _ => by
        cases inl
        · exact .inr (if_pos hw)
        · exact .inl rfl }
  | pop b hq =>
    exact { h with
      dead := by simp [hl]
      count := by simpa [hq] using h.count
      runs := by simpa [hq] using h.runs
      toAdd := by simpa [hq] using h.toAdd
      adding := fun ha => by simpa [hq] using (h.adding ha).2
      awaited := fun hw _ _ => h.awaited hw (by simp [hq]) (by simp [hq]) }
  | run hp =>
    exact { h with
      dead := by simp [hl, hsd]
      count := by simpa [hp] using h.count
      runs := by simpa [hp] using h.runs
      toAdd := by simpa [hp] using h.toAdd
      adding := fun ha => ⟨(h.adding ha).1, .inr rfl⟩
      awaited := fun hw _ _ => h.awaited hw (by simp [hp]) (by simp [hp]) }
  | dec hp =>
    have hta : t.cstage ≠ .toAdd := by simpa [hp] using h.toAdd
    exact {
      dead := by simp [hl]
      recd := fun hr => by simp [h.recd hr]
      count := by simp [h.count, hp]
      runs := by simpa [hp] using h.runs
      toAdd := by simp only [reduceCtorEq, iff_false]; split <;> simp [afterAdd_ne, hta]
      adding := fun ha => by split at ha <;> simp_all [afterAdd_ne]
      awaited := fun _ hd => absurd rfl hd }
  | waitRet hg =>
    obtain ⟨hw, hd⟩ := hg
    have hd : t.phase = .done := hd.resolve_right (by simp [hl])
    exact { h with
      dead := by simp [hl]
      recd := fun hr => nomatch (h.recd hr).symm.trans hw
      toAdd := by simp [hd]
      adding := fun ha => nomatch ha
      awaited := fun _ h' => absurd hd h' }
  | record hr =>
    exact { h with
      dead := by simp [hl]
      recd := fun _ => rfl
      toAdd := by simpa [hr] using h.toAdd
      adding := fun ha => nomatch ha
      awaited := fun hw h1 h2 => by simpa [hr] using h.awaited hw h1 h2 }
  | reap hg =>
    obtain ⟨⟨⟨_, hr⟩, _⟩, hc⟩ := hg
    have hrel := h.recd hr
    have hd : t.phase ≠ .fresh → t.phase = .done := by
      simpa [hc.resolve_right (by simp [hrg])] using h.count.symm
    exact { h with dead := fun _ => ⟨hd (fun hf => nomatch hrel.symm.trans (h.toAdd.mpr hf)), hrel, hr⟩ }

theorem Task.w_lt (hl : t'.live = true → t.live = true)
    (h : t'.phase.w + t'.cstage.w < t.phase.w + t.cstage.w) : t'.w < t.w := by
  unfold Task.w
  cases h' : t'.live
  · simp only [Bool.false_eq_true, if_false]; omega
  · simp only [hl h', if_true]; omega

theorem TStep.w_lt (hs : TStep c t t' touches) : t'.w < t.w := by
  cases hs with
  | add inl hg =>
    refine Task.w_lt id ?_
    rcases afterAdd_cases c with ⟨ha, _⟩ | ⟨ha, _⟩ <;> cases inl <;> simp [Phase.w, CStage.w, hg, ha]
  | pop b hp => exact Task.w_lt id (by simp [Phase.w, hp])
  | run hp => exact Task.w_lt (fun h => (Bool.and_eq_true _ _ ▸ h).1) (by simp [Phase.w, hp])
  | dec hp =>
    refine Task.w_lt id ?_
    rcases afterAdd_cases c with ⟨ha, _⟩ | ⟨ha, _⟩ <;> by_cases hc : t.cstage = .adding <;>
      simp [Phase.w, CStage.w, hp, ha, hc]
  | waitRet hg => exact Task.w_lt id (by simp [CStage.w, hg.1])
  | record hc => exact Task.w_lt id (by simp [CStage.w, hc])
  | reap hg => simp [Task.w, hg.1.2]

theorem tinv_new (hd : (c.detached && !c.recordAfterAdd) = false) : TInv c (newTask c) := by
  constructor <;> simp [newTask, hd]

theorem sinv_init (c : SCfg) : SInv c sInit := ⟨rfl, by simp [sInit]⟩

theorem sinv_step (c : SCfg) (hwf : c.wfMem = true) (s : SSt) (a : SAct) (s' : SSt)
    (h : SInv c s) (hn : sNext c s a = some s') : SInv c s' := by
  simp only [SCfg.wfMem, Bool.and_eq_true, Bool.not_eq_true'] at hwf
  obtain ⟨⟨⟨hsd, _⟩, hra⟩, hrg⟩ := hwf
  cases hint : a.internal
  · -- `sched` is the only action that is not internal
    cases a <;> cases hint
    cases hn
    exact ⟨h.uaf, List.forall_mem_cons.mpr ⟨tinv_new (by simp [hra]), h.tasks⟩⟩
  · obtain ⟨i, t, t', touches, ht, hstep, rfl⟩ := sNext_internal hint hn
    have hti := h.tasks t (List.mem_of_getElem? ht)
    refine ⟨?_, fun x hx => ?_⟩
    · simp [h.uaf, hstep.live hti]
    · rcases List.mem_or_eq_of_mem_set hx with hx | rfl
      · exact h.tasks x hx
      · exact hstep.tinv hsd hrg hti

theorem sinv_reach (hwf : c.wfMem = true) {s : SSt} (hs : Reach (sNext c) sInit s) : SInv c s :=
  reach_inv (SInv c) (sinv_init c) (sinv_step c hwf) s hs

theorem busyW_zero {s : SSt} (h : ∀ t ∈ s.tasks, ¬t.phase = .running ∧ ¬t.phase = .ran) : busyW s = 0 := by
  simp only [busyW, List.countP_eq_zero]
  intro t ht
  simp [Task.executing, h t ht]

theorem not_stuck {s : SSt} (hl : c.wfLive = true) (h : SInv c s) (ht : t ∈ s.tasks) (hnd : t.phase ≠ .done) :
    ∃ a : SAct, a.internal = true ∧ (sNext c s a).isSome = true := by
  by_cases hex : ∃ t' ∈ s.tasks, t'.phase = .fresh ∨ t'.phase = .running ∨ t'.phase = .ran
  · -- a task that is fresh, running or has run can take its next step by itself
    obtain ⟨t', ht', hp⟩ := hex
    obtain ⟨i, hi⟩ := List.getElem?_of_mem ht'
    rcases hp with hp | hp | hp
    · exact ⟨.add i false, rfl, onTask_some hi (by simp [hp, (h.tasks t' ht').toAdd.mpr hp])⟩
    · exact ⟨.run i, rfl, onTask_some hi (by simp [hp])⟩
    · exact ⟨.dec i, rfl, onTask_some hi (by simp [hp])⟩
  · -- otherwise every task is queued or done, `t` is queued and no worker is busy
    simp only [not_exists, not_and, not_or] at hex
    have hq : t.phase = .queued := by
      obtain ⟨hf, hr, hn⟩ := hex t ht
      cases hp : t.phase <;> first | rfl | contradiction
    obtain ⟨i, hi⟩ := List.getElem?_of_mem ht
    have hg : (t.phase == .queued) = true := by simp [hq]
    by_cases hw : 1 ≤ c.workers
    · refine ⟨.popW i, rfl, ?_⟩
      have hb : busyW s < c.workers := by rwa [busyW_zero fun t' ht' => (hex t' ht').2]
      simp only [sNext, hb, if_true]
      exact onTask_some hi hg
    · -- no workers: the caller that scheduled `t` is waiting for it
      have hin : (c.inlineNoWorkers && c.workers == 0) = true := by
        simp only [SCfg.wfLive, hw, decide_false, Bool.false_or] at hl
        simp [hl]; omega
      have hinv := h.tasks t ht
      have hwt : t.cstage = .waiting :=
        (hinv.awaited hin hnd (by simp [hq])).resolve_left fun ha => by simpa [hq] using (hinv.adding ha).2
      refine ⟨.popC i, rfl, ?_⟩
      have hcw : callerWaiting s = true := List.any_eq_true.mpr ⟨t, ht, by simp [hwt]⟩
      simp only [sNext, hcw, if_true]
      exact onTask_some hi hg

end RkVerif.C02
