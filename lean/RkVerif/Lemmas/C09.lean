/-
Helper lemmas for C09: Optional, and the struct-layout arithmetic.  A world is well formed (`Inv`) when
no lifetime error is recorded and every wrapper's flag and counters agree with its storage (`OptOk`);
`abs` maps it to one `Option (Option Val)` per slot and `Ref.step` is the `std::optional`-style meaning
of the operations on those.

Every member function, run on a well-formed wrapper, amounts to a `put`: slot `i` comes to hold a given
content and its destruction counter advances (what a well-formed slot holds and that counter determine the
wrapper's flag, its storage and the construction counter).  `put_spec` says once what a `put` does to `Inv`
and `abs` (all other slots are untouched); each member function has one closed form (`reset_eq`,
`emplace_eq`, …, whether the wrapper was engaged enters through `hasV`) from which its `_spec` lemma follows,
moves are copies followed by `forget`, and `step_spec` composes these per operation.
-/
import RkVerif.Model.C09
namespace RkVerif.C09

@[simp] theorem upd_same {α : Type} (f : Nat → α) (i : Nat) (a : α) : upd f i a i = a := by simp [upd]
theorem upd_other {α : Type} {f : Nat → α} {i k : Nat} {a : α} (h : k ≠ i) : upd f i a k = f k := by simp [upd, h]

@[simp] theorem upd_upd {α : Type} (f : Nat → α) (i : Nat) (a b : α) : upd (upd f i a) i b = upd f i b := by
  funext k; by_cases h : k = i <;> simp [upd, h]

theorem upd_eq_self {α : Type} {f : Nat → α} {i : Nat} {a : α} (h : f i = a) : upd f i a = f := by
  funext k; by_cases hk : k = i <;> simp [upd, hk, h]

theorem upd_comm {α : Type} {f : Nat → α} {i j : Nat} {a b : α} (h : i ≠ j) :
    upd (upd f i a) j b = upd (upd f j b) i a := by
  funext k; by_cases hi : k = i <;> by_cases hj : k = j <;> simp_all [upd]

theorem upd_absorb {α : Type} {f : Nat → α} {i j : Nat} {a b c : α} (h : i ≠ j) :
    upd (upd (upd f i a) j b) i c = upd (upd f i c) j b := by
  rw [upd_comm (Ne.symm h), upd_upd, upd_comm h]

def OptOk (σ : World) (i : Nat) : Prop :=
  match σ.w i with
  | none => σ.born i = σ.died i
  | some o => o.hasValue = o.storage.isLive ∧ σ.born i = σ.died i + (if o.storage.isLive then 1 else 0)

def Inv (σ : World) : Prop := σ.errs = [] ∧ ∀ i, OptOk σ i

theorem optOk_cases {σ : World} {i : Nat} (h : OptOk σ i) :
    (σ.w i = none ∧ σ.born i = σ.died i) ∨
    (σ.w i = some ⟨false, .raw⟩ ∧ σ.born i = σ.died i) ∨
    (∃ x, σ.w i = some ⟨true, .live x⟩ ∧ σ.born i = σ.died i + 1) := by
  unfold OptOk at h
  split at h
  · left; exact ⟨‹_›, h⟩
  · rename_i o ho
    obtain ⟨hv, st⟩ := o
    cases st with
    | raw => right; left; simp_all [Slot.isLive]
    | live x => right; right; exact ⟨x, by simp_all [Slot.isLive]⟩

theorem inv_init : Inv ({} : World) := ⟨rfl, fun _ => by simp [OptOk]⟩

def absOpt (o : Opt) : Option Val :=
  if o.hasValue then (match o.storage with | .live x => some x | .raw => some .unspec) else none

/-- abstract state: per slot, no object / empty / engaged with a value -/
abbrev Ref := Nat → Option (Option Val)

def abs (σ : World) (i : Nat) : Option (Option Val) := (σ.w i).map absOpt

/-- the value of a wrapper that was passed as an rvalue is unspecified afterwards -/
def fg (a : Option (Option Val)) : Option (Option Val) := a.map (Option.map fun _ => Val.unspec)

/-- Reference semantics: what each operation means for value types (`std::optional` semantics). -/
def Ref.step (r : Ref) : Op → Ref
  | .ctorDefault i => upd r i (some none)
  | .ctorValue i x => upd r i (some (some (.v x)))
  | .makeOptional i x => upd r i (some (some (.v x)))
  | .ctorCopy i j => if i ≠ j ∧ (r j).isSome then upd r i (r j) else r
  | .ctorMove i j => if i ≠ j ∧ (r j).isSome then upd (upd r i (r j)) j (fg (r j)) else r
  | .dtor i => upd r i none
  | .assignValue i x => if (r i).isSome then upd r i (some (some (.v x))) else r
  | .emplace i x => if (r i).isSome then upd r i (some (some (.v x))) else r
  | .reset i => if (r i).isSome then upd r i (some none) else r
  | .copyAssign i j => if (r i).isSome ∧ (r j).isSome then upd r i (r j) else r
  | .moveAssign i j => if (r i).isSome ∧ (r j).isSome ∧ i ≠ j then upd (upd r i (r j)) j (fg (r j)) else r
  | .convMoveAssign i j => if (r i).isSome ∧ (r j).isSome ∧ i ≠ j then upd (upd r i (r j)) j (fg (r j)) else r

def Ref.runR : List Op → Ref
  | [] => fun _ => none
  | op :: earlier => (Ref.runR earlier).step op

variable {σ : World} {i j : Nat} {x y : Val}

theorem abs_isSome : (abs σ i).isSome = present σ i := by simp [abs, present]

def Opt.of : Option Val → Opt
  | none => ⟨false, .raw⟩
  | some x => ⟨true, .live x⟩

/-- `σ` with slot `i` holding `a` (no object / empty wrapper / engaged wrapper) after `d` more destructions
    there: the wrapper is `Opt.of`, and one more payload was constructed than destroyed exactly if one is live. -/
def put (σ : World) (i : Nat) (a : Option (Option Val)) (d : Nat) : World :=
  { σ with w := upd σ.w i (a.map Opt.of),
           died := upd σ.died i (σ.died i + d),
           born := upd σ.born i (σ.died i + d + if (a.bind id).isSome then 1 else 0) }

theorem put_spec {a : Option (Option Val)} {d : Nat} (h : Inv σ) :
    Inv (put σ i a d) ∧ abs (put σ i a d) = upd (abs σ) i a := by
  refine ⟨⟨h.1, fun k => ?_⟩, funext fun k => ?_⟩
  · by_cases hk : k = i
    · rcases a with _ | _ | x <;> simp [hk, OptOk, put, Opt.of, Slot.isLive]
    · simpa [OptOk, put, upd_other, hk] using h.2 k
  · by_cases hk : k = i
    · rcases a with _ | _ | x <;> simp [hk, abs, put, Opt.of, absOpt]
    · simp [abs, put, upd_other, hk]

/-! The member functions on a well-formed wrapper, as `put`s: `reset`, `emplace` and the destructor destroy the
payload of an engaged wrapper; an assignment destroys nothing (it constructs a default payload in an empty
wrapper first). -/

theorem reset_eq (h : OptOk σ i) (hp : present σ i = true) :
    reset σ i = put σ i (some none) (if hasV σ i then 1 else 0) := by
  rcases optOk_cases h with ⟨h1, _⟩ | ⟨h1, h2⟩ | ⟨x, h1, h2⟩
  · simp [present, h1] at hp
  · simp [reset, hasV, setHV, h1, put, Opt.of, upd_eq_self, h2]
  · simp [reset, hasV, setHV, pDestroy, h1, put, Opt.of, upd_eq_self, h2]

theorem emplace_eq (h : OptOk σ i) (hp : present σ i = true) :
    emplace σ i x = put σ i (some (some x)) (if hasV σ i then 1 else 0) := by
  simp [emplace, reset_eq h hp, pConstruct, setHV, put, Opt.of]

theorem assignValue_eq (h : OptOk σ i) (hp : present σ i = true) :
    assignValue σ i x = put σ i (some (some x)) 0 := by
  rcases optOk_cases h with ⟨h1, _⟩ | ⟨h1, h2⟩ | ⟨y, h1, h2⟩
  · simp [present, h1] at hp
  · simp [assignValue, dcsin, hasV, pConstruct, pAssign, setHV, h1, put, Opt.of, upd_eq_self, h2]
  · simp [assignValue, dcsin, hasV, pAssign, setHV, h1, put, Opt.of, upd_eq_self, h2]

theorem dtor_eq (h : OptOk σ i) : dtor σ i = put σ i none (if hasV σ i then 1 else 0) := by
  cases hp : present σ i with
  | false =>
    have h1 : σ.w i = none := by simpa [present] using hp
    have h2 : σ.born i = σ.died i := by simpa [OptOk, h1] using h
    simp [dtor, reset, hasV, setHV, vanish, h1, put, upd_eq_self, h2]
  | true => simp [dtor, reset_eq h hp, vanish, put, Opt.of, Slot.isLive]

theorem clear_eq_dtor : clear σ i = dtor σ i := by
  cases h : σ.w i <;> simp [clear, present, h, dtor, reset, hasV, setHV, vanish]

theorem fresh_eq (h : OptOk σ i) : create (clear σ i) i = put σ i (some none) (if hasV σ i then 1 else 0) := by
  simp [clear_eq_dtor, dtor_eq h, create, put, Opt.of]

theorem forget_eq (h : OptOk σ j) : forget σ j = put σ j (fg (abs σ j)) 0 := by
  rcases optOk_cases h with ⟨h1, h2⟩ | ⟨h1, h2⟩ | ⟨y, h1, h2⟩ <;>
    simp [forget, abs, absOpt, fg, h1, put, Opt.of, upd_eq_self, h2]

theorem dtor_spec (h : Inv σ) (i : Nat) : Inv (dtor σ i) ∧ abs (dtor σ i) = upd (abs σ) i none := by
  rw [dtor_eq (h.2 i)]; exact put_spec h

theorem fresh_spec (h : Inv σ) (i : Nat) :
    Inv (create (clear σ i) i) ∧ abs (create (clear σ i) i) = upd (abs σ) i (some none) := by
  rw [fresh_eq (h.2 i)]; exact put_spec h

theorem reset_spec (h : Inv σ) (hp : present σ i = true) :
    Inv (reset σ i) ∧ abs (reset σ i) = upd (abs σ) i (some none) := by
  rw [reset_eq (h.2 i) hp]; exact put_spec h

theorem emplace_spec (h : Inv σ) (hp : present σ i = true) :
    Inv (emplace σ i x) ∧ abs (emplace σ i x) = upd (abs σ) i (some (some x)) := by
  rw [emplace_eq (h.2 i) hp]; exact put_spec h

theorem assignValue_spec (h : Inv σ) (hp : present σ i = true) :
    Inv (assignValue σ i x) ∧ abs (assignValue σ i x) = upd (abs σ) i (some (some x)) := by
  rw [assignValue_eq (h.2 i) hp]; exact put_spec h

theorem forget_spec (h : Inv σ) (j : Nat) :
    Inv (forget σ j) ∧ abs (forget σ j) = upd (abs σ) j (fg (abs σ j)) := by
  rw [forget_eq (h.2 j)]; exact put_spec h

/-! ## Copies read the source's value; moves are copies followed by `forget` -/

theorem pConstruct_w_other {k : Nat} (hk : k ≠ i) : (pConstruct σ i x).w k = σ.w k := by
  unfold pConstruct
  split
  · split
    · exact upd_other hk
    · rfl
  · rfl

theorem copyAssign_engaged (g : σ.w j = some ⟨true, .live y⟩) : copyAssign σ i j = assignValue σ i y := by
  have : (dcsin σ i).w j = some ⟨true, .live y⟩ := by
    by_cases hij : i = j
    · subst hij; simp [dcsin, hasV, g]
    · unfold dcsin; split
      · exact g
      · rw [pConstruct_w_other (Ne.symm hij), g]
  simp [copyAssign, hasV, g, pRead, this, assignValue]

theorem copyAssign_spec (h : Inv σ) (hi : present σ i = true) (hj : present σ j = true) :
    Inv (copyAssign σ i j) ∧ abs (copyAssign σ i j) = upd (abs σ) i (abs σ j) := by
  rcases optOk_cases (h.2 j) with ⟨g1, _⟩ | ⟨g1, _⟩ | ⟨y, g1, _⟩
  · simp [present, g1] at hj
  · rw [show copyAssign σ i j = reset σ i by simp [copyAssign, hasV, g1],
      show abs σ j = some none by simp [abs, g1, absOpt]]
    exact reset_spec h hi
  · rw [copyAssign_engaged g1, show abs σ j = some (some y) by simp [abs, g1, absOpt]]
    exact assignValue_spec h hi

theorem ctorCopy_eq : ctorCopy σ i j = copyAssign (create σ i) i j := by
  cases hv : hasV (create σ i) j with
  | true => simp [ctorCopy, copyAssign, hv]
  | false =>
    rw [show ctorCopy σ i j = create σ i by simp [ctorCopy, hv],
      show copyAssign (create σ i) i j = reset (create σ i) i by simp [copyAssign, hv]]
    simp [reset, hasV, setHV, create]

theorem copyFresh_spec (h : Inv σ) (hj : present σ j = true) (hij : i ≠ j) :
    Inv (copyAssign (create (clear σ i) i) i j) ∧
      abs (copyAssign (create (clear σ i) i) i j) = upd (abs σ) i (abs σ j) := by
  obtain ⟨hc, ec⟩ := fresh_spec h i
  have ej : abs (create (clear σ i) i) j = abs σ j := by rw [ec, upd_other (Ne.symm hij)]
  have := copyAssign_spec hc (i := i) (j := j) (by simp [present, create]) (by rw [← abs_isSome, ej, abs_isSome, hj])
  rwa [ej, ec, upd_upd] at this

theorem forget_moveAssign (h : Inv σ) (hi : present σ i = true) (hij : i ≠ j) :
    forget (moveAssign σ i j) j = forget (copyAssign σ i j) j := by
  have hji : j ≠ i := Ne.symm hij
  rcases optOk_cases (h.2 j) with ⟨g1, _⟩ | ⟨g1, _⟩ | ⟨y, g1, _⟩
  · simp [moveAssign, copyAssign, hasV, g1]
  · simp [moveAssign, copyAssign, hasV, g1]
  · rcases optOk_cases (h.2 i) with ⟨h1, _⟩ | ⟨h1, _⟩ | ⟨x, h1, _⟩
    · simp [present, h1] at hi
    · simp [moveAssign, copyAssign, forget, hasV, g1, h1, dcsin, pConstruct, pMoveFrom, pRead, pAssign, setHV,
        upd_other, hij, hji, upd_absorb]
    · simp [moveAssign, copyAssign, forget, hasV, g1, h1, dcsin, pMoveFrom, pRead, pAssign, setHV, upd_other, hij,
        hji, upd_absorb]
      exact upd_comm hji

theorem ctorMove_eq (h : OptOk σ j) (hij : i ≠ j) : ctorMove σ i j = moveAssign (create σ i) i j := by
  have hji : j ≠ i := Ne.symm hij
  rcases optOk_cases h with ⟨g1, _⟩ | ⟨g1, _⟩ | ⟨y, g1, _⟩
  · simp [ctorMove, moveAssign, reset, hasV, setHV, create, upd_other, hji, g1]
  · simp [ctorMove, moveAssign, reset, hasV, setHV, create, upd_other, hji, g1]
  · simp [ctorMove, moveAssign, reset, hasV, setHV, create, upd_other, hji, hij, g1, dcsin, pConstruct, pMoveFrom,
      pAssign, upd_absorb]

/-- The last step of every move; `ht` has the shape in which the `_spec` lemmas of the copies deliver it. -/
theorem forget_after_copy {τ : World} {r : Ref} (hij : i ≠ j) (ht : Inv τ ∧ abs τ = upd r i (r j)) :
    Inv (forget τ j) ∧ abs (forget τ j) = upd (upd r i (r j)) j (fg (r j)) := by
  obtain ⟨h1, e1⟩ := forget_spec ht.1 j
  exact ⟨h1, by rw [e1, ht.2, upd_other (Ne.symm hij)]⟩

theorem ctorValue_spec (h : Inv σ) (i : Nat) (x : Val) :
    Inv (ctorValue (clear σ i) i x) ∧ abs (ctorValue (clear σ i) i x) = upd (abs σ) i (some (some x)) := by
  obtain ⟨h1, e1⟩ := fresh_spec h i
  obtain ⟨h2, e2⟩ := emplace_spec (x := x) h1 (i := i) (by simp [present, create])
  exact ⟨h2, e2.trans (by rw [e1, upd_upd])⟩

theorem guarded_spec {c : Prop} [Decidable c] {τ : World} {r : Ref} (h : Inv σ)
    (hc : c → Inv τ ∧ abs τ = r) :
    Inv (if c then τ else σ) ∧ abs (if c then τ else σ) = if c then r else abs σ := by
  by_cases h' : c
  · simpa [h'] using hc h'
  · simpa [h'] using h

theorem step_spec (op : Op) (h : Inv σ) : Inv (step σ op) ∧ abs (step σ op) = Ref.step (abs σ) op := by
  cases op <;> simp only [step, Ref.step, abs_isSome]
  case ctorDefault i => exact fresh_spec h i
  case ctorValue i x => exact ctorValue_spec h i (.v x)
  case makeOptional i x => exact ctorValue_spec h i (.v x)
  case dtor i => exact dtor_spec h i
  case assignValue i x => exact guarded_spec h (assignValue_spec h)
  case emplace i x => exact guarded_spec h (emplace_spec h)
  case reset i => exact guarded_spec h (reset_spec h)
  case copyAssign i j => exact guarded_spec h fun hc => copyAssign_spec h hc.1 hc.2
  case convMoveAssign i j => exact guarded_spec h fun hc => forget_after_copy hc.2.2 (copyAssign_spec h hc.1 hc.2.1)
  case moveAssign i j =>
    refine guarded_spec h fun hc => ?_
    rw [forget_moveAssign h hc.1 hc.2.2]
    exact forget_after_copy hc.2.2 (copyAssign_spec h hc.1 hc.2.1)
  case ctorCopy i j =>
    rw [ctorCopy_eq]
    exact guarded_spec h fun hc => copyFresh_spec h hc.2 hc.1
  case ctorMove i j =>
    refine guarded_spec h fun hc => ?_
    rw [ctorMove_eq (clear_eq_dtor ▸ (dtor_spec h i).1.2 j) hc.1,
      forget_moveAssign (fresh_spec h i).1 (by simp [present, create]) hc.1]
    exact forget_after_copy hc.1 (copyFresh_spec h hc.2 hc.1)

theorem inv_runR (hist : List Op) : Inv (runR hist) := by
  induction hist with
  | nil => exact inv_init
  | cons op earlier ih => exact (step_spec op ih).1

theorem hasV_abs : hasV σ i = ((abs σ i).bind id).isSome := by
  rcases h : σ.w i with _ | ⟨hv, st⟩
  · simp [hasV, abs, h]
  · cases hv <;> cases st <;> simp [hasV, abs, absOpt, h]

theorem obsValue_abs (h : OptOk σ i) : obsValue σ i = (abs σ i).bind id := by
  rcases optOk_cases h with ⟨h1, _⟩ | ⟨h1, _⟩ | ⟨x, h1, _⟩ <;> simp [obsValue, abs, absOpt, h1]

def Op.writes : Op → List Nat
  | .ctorMove i j | .moveAssign i j | .convMoveAssign i j => [i, j]
  | .ctorDefault i | .ctorValue i _ | .makeOptional i _ | .dtor i | .assignValue i _
  | .emplace i _ | .reset i | .ctorCopy i _ | .copyAssign i _ => [i]

theorem step_frame {σ : World} (h : Inv σ) (op : Op) (k : Nat) (hk : k ∉ op.writes) :
    abs (step σ op) k = abs σ k := by
  rw [(step_spec op h).2]
  cases op <;> simp [Op.writes] at hk <;> simp [Ref.step, upd, hk] <;> split <;> simp [upd, hk]

theorem untouched_absent (hist : List Op) (k : Nat) (hk : k ∉ touched hist) : abs (runR hist) k = none := by
  induction hist with
  | nil => simp [abs, runR]
  | cons op earlier ih =>
    simp only [touched, List.mem_append, not_or] at hk
    have hw : k ∉ op.writes := by
      intro h; apply hk.1
      cases op <;> simp [Op.writes, Op.slots] at h ⊢ <;> simp [h]
    rw [runR, step_frame (inv_runR earlier) op k hw]; exact ih hk.2

theorem destroyAll_spec {σ : World} (is : List Nat) (h : Inv σ) :
    Inv (destroyAll σ is) ∧ abs (destroyAll σ is) = fun k => if k ∈ is then none else abs σ k := by
  induction is generalizing σ with
  | nil => exact ⟨h, by simp [destroyAll]⟩
  | cons i rest ih =>
    obtain ⟨hd, ed⟩ := dtor_spec h i
    obtain ⟨h1, e1⟩ := ih hd
    refine ⟨h1, e1.trans (funext fun k => ?_)⟩
    by_cases hk : k = i <;> simp [ed, upd, hk]

theorem roundUp_dvd (n a : Nat) : a ∣ roundUp n a := ⟨(n + a - 1) / a, by simp [roundUp, Nat.mul_comm]⟩

theorem offsetAfter_dvd (cur : Nat) (before : List Field) (f : Field) :
    f.align ∣ offsetAfter cur before f := by
  induction before generalizing cur with
  | nil => exact roundUp_dvd _ _
  | cons g gs ih => exact ih _

theorem structAlignExp_ge (before after : List Field) (f : Field) :
    f.alignExp ≤ structAlignExp (before ++ f :: after) := by
  induction before with
  | nil => simp [structAlignExp]; omega
  | cons g gs ih => simp [structAlignExp]; omega

theorem member_aligned (before after : List Field) (f : Field) (base : Nat)
    (hbase : 2 ^ structAlignExp (before ++ f :: after) ∣ base) : f.align ∣ base + offsetAfter 0 before f :=
  Nat.dvd_add (Nat.dvd_trans (Nat.pow_dvd_pow 2 (structAlignExp_ge before after f)) hbase)
    (offsetAfter_dvd 0 before f)

/-! ## Tactics for evaluating a world shape by shape

For a goal `Inv τ` with `τ` written out as updates of slots `i` and `j` (where no closed form through `put`
is at hand): `c09_shapes1 hw i` brings the shape of slot `i` into the context and `c09_inv2 hw i j` then
checks every slot `k`, distinguishing `k = i`, `k = j` and the rest. -/

macro "c09_eval" : tactic => `(tactic|
  simp (config := { decide := true }) [put, upd, OptOk, Slot.isLive, *])

/-- closes such a goal once the shapes of the slots involved are in the context -/
macro "c09_inv2" hw:ident i:ident j:ident : tactic => `(tactic|
  (refine ⟨?_, fun k => ?_⟩
   · c09_eval
   · by_cases hki : k = $i
     · subst hki; c09_eval
     · by_cases hkj : k = $j
       · subst hkj; c09_eval
       · have hk := $hw k
         revert hk; c09_eval))


macro "c09_shapes1" hw:ident i:ident : tactic => `(tactic|
  (rcases optOk_cases ($hw $i) with ⟨h1, h2⟩ | ⟨h1, h2⟩ | ⟨x, h1, h2⟩))

end RkVerif.C09
