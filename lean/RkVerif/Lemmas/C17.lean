/- The index arithmetic is proved once over `Nat` (one mixed-radix digit `x + n * y`, then two of them, `flatN`);
   the machine (`UInt64`) and `int` versions are transferred to it by showing that no intermediate wraps.
   Loops are turned into maps over ranges. -/
import RkVerif.Model.C17
namespace RkVerif.C17

def flatN (dx dy x y z : Nat) : Nat := x + dx * (y + dy * z)

section
variable {dx dy dz n x y z x' y' z' : Nat}

theorem flat2_lt_flat2 (hx : x < n) (hy : y < y') : x + n * y < x' + n * y' := by
  have : n * (y + 1) ≤ n * y' := Nat.mul_le_mul_left n hy
  rw [Nat.mul_succ] at this; omega

theorem flat2_lt (hx : x < dx) (hy : y < n) : x + dx * y < dx * n := by
  simpa using flat2_lt_flat2 (x' := 0) hx hy

theorem flat2_mod (hx : x < dx) : (x + dx * y) % dx = x := by
  rw [Nat.add_mul_mod_self_left, Nat.mod_eq_of_lt hx]

theorem flat2_div (hx : x < dx) : (x + dx * y) / dx = y := by
  rw [Nat.add_mul_div_left _ _ (by omega), Nat.div_eq_of_lt hx]; omega

theorem flatN_lt (hx : x < dx) (hy : y < dy) (hz : z < dz) :
    flatN dx dy x y z < dx * dy * dz := by
  rw [Nat.mul_assoc]; exact flat2_lt hx (flat2_lt hy hz)

theorem flatN_x (hx : x < dx) : flatN dx dy x y z % dx = x := flat2_mod hx
theorem flatN_y (hx : x < dx) (hy : y < dy) : flatN dx dy x y z / dx % dy = y := by
  unfold flatN; rw [flat2_div hx, flat2_mod hy]
theorem flatN_z (hx : x < dx) (hy : y < dy) : flatN dx dy x y z / dx / dy = z := by
  unfold flatN; rw [flat2_div hx, flat2_div hy]

theorem flatN_coords (dx dy i : Nat) : flatN dx dy (i % dx) (i / dx % dy) (i / dx / dy) = i := by
  unfold flatN; rw [Nat.mod_add_div, Nat.mod_add_div]

theorem coords_lt {i : Nat} (hi : i < dx * dy * dz) :
    i % dx < dx ∧ i / dx % dy < dy ∧ i / dx / dy < dz := by
  have hdx : 0 < dx := Nat.pos_of_ne_zero (by rintro rfl; simp at hi)
  have hdy : 0 < dy := Nat.pos_of_ne_zero (by rintro rfl; simp at hi)
  exact ⟨Nat.mod_lt _ hdx, Nat.mod_lt _ hdy, by rw [Nat.div_div_eq_div_mul]; exact Nat.div_lt_of_lt_mul hi⟩

theorem flatN_inj (hx : x < dx) (hy : y < dy) (hx' : x' < dx) (hy' : y' < dy)
    (h : flatN dx dy x y z = flatN dx dy x' y' z') : x = x' ∧ y = y' ∧ z = z' := by
  refine ⟨?_, ?_, ?_⟩
  · rw [← flatN_x (dy := dy) (y := y) (z := z) hx, h, flatN_x hx']
  · rw [← flatN_y (z := z) hx hy, h, flatN_y hx' hy']
  · rw [← flatN_z (z := z) hx hy, h, flatN_z hx' hy']

theorem flatN_lt_flatN (hx : x < dx) (hy : y < dy)
    (h : z < z' ∨ (z = z' ∧ (y < y' ∨ (y = y' ∧ x < x')))) : flatN dx dy x y z < flatN dx dy x' y' z' := by
  unfold flatN
  rcases h with h | ⟨rfl, h | ⟨rfl, h⟩⟩
  · exact flat2_lt_flat2 hx (flat2_lt_flat2 hy h)
  · exact flat2_lt_flat2 hx (by omega)
  · omega

end

theorem u_add {a b : U64} (h : a.toNat + b.toNat < 2 ^ 64) : (a + b).toNat = a.toNat + b.toNat := by
  rw [UInt64.toNat_add, Nat.mod_eq_of_lt h]

theorem u_mul {a b : U64} (h : a.toNat * b.toNat < 2 ^ 64) : (a * b).toNat = a.toNat * b.toNat := by
  rw [UInt64.toNat_mul, Nat.mod_eq_of_lt h]

theorem u_mul3 {a b c : U64} (h : a.toNat * b.toNat * c.toNat < 2 ^ 64) :
    (a * b * c).toNat = a.toNat * b.toNat * c.toNat := by
  rcases Nat.eq_zero_or_pos c.toNat with hc | hc
  · rw [UInt64.toNat_mul, hc, Nat.mul_zero, Nat.mul_zero]
  · have hab : (a * b).toNat = a.toNat * b.toNat :=
      u_mul (Nat.lt_of_le_of_lt (Nat.le_mul_of_pos_right _ hc) h)
    rw [u_mul (by rwa [hab]), hab]

theorem flat2_machine {x dx y : U64} (hb : x.toNat + dx.toNat * y.toNat < 2 ^ 64) :
    (x + dx * y).toNat = x.toNat + dx.toNat * y.toNat := by
  have h1 : (dx * y).toNat = dx.toNat * y.toNat := u_mul (by omega)
  rw [u_add (by omega), h1]

/-- Only the final value has to fit: with `dx > 0` it bounds every intermediate. -/
theorem flat_machine {x dx y dy z : U64} (hdx : 0 < dx.toNat)
    (hb : flatN dx.toNat dy.toNat x.toNat y.toNat z.toNat < 2 ^ 64) :
    (x + dx * (y + dy * z)).toNat = flatN dx.toNat dy.toNat x.toNat y.toNat z.toNat := by
  unfold flatN at *
  have h0 := Nat.le_mul_of_pos_left (y.toNat + dy.toNat * z.toNat) hdx
  have h1 : (y + dy * z).toNat = y.toNat + dy.toNat * z.toNat := flat2_machine (by omega)
  rw [flat2_machine (by rwa [h1]), h1]

/-- `a - a / b * b` is how `reshape` spells `a % b` -/
theorem u_sub_div_mul (a b : U64) : a - a / b * b = a % b := by
  rw [UInt64.sub_eq_iff_eq_add]
  apply UInt64.toNat_inj.mp
  have h := Nat.mod_add_div a.toNat b.toNat
  have := a.toNat_lt
  rw [Nat.mul_comm] at h
  have hm : (a / b * b).toNat = a.toNat / b.toNat * b.toNat := by
    rw [u_mul (by rw [UInt64.toNat_div]; omega), UInt64.toNat_div]
  rw [u_add (by rw [hm, UInt64.toNat_mod]; omega), hm, UInt64.toNat_mod, h]

theorem V2.toNat_ext {a b : V2 U64} (hx : a.x.toNat = b.x.toNat) (hy : a.y.toNat = b.y.toNat) : a = b := by
  cases a; cases b
  simp only [V2.mk.injEq]; exact ⟨UInt64.toNat_inj.mp hx, UInt64.toNat_inj.mp hy⟩

theorem V3.toNat_ext {a b : V3 U64} (hx : a.x.toNat = b.x.toNat) (hy : a.y.toNat = b.y.toNat)
    (hz : a.z.toNat = b.z.toNat) : a = b := by
  cases a; cases b
  simp only [V3.mk.injEq]; exact ⟨UInt64.toNat_inj.mp hx, UInt64.toNat_inj.mp hy, UInt64.toNat_inj.mp hz⟩

theorem ofNat_toNat_lt {i n : Nat} (hi : i < n) (hn : n < 2 ^ 64) : (UInt64.ofNat i).toNat = i :=
  UInt64.toNat_ofNat_of_lt' (Nat.lt_trans hi hn)

theorem toU_toNat {i : Int} (h0 : 0 ≤ i) (h1 : i < 2 ^ 64) : (toU i).toNat = i.toNat := by
  unfold toU
  rw [UInt64.toNat_ofNat', show (18446744073709551616 : Int) = 2 ^ 64 by decide, Int.emod_eq_of_lt h0 h1]
  exact Nat.mod_eq_of_lt (by omega)

theorem toI32_small {u : U64} (h : u.toNat < 2 ^ 31) : toI32 u = (u.toNat : Int) := by
  unfold toI32
  rw [Nat.mod_eq_of_lt (by omega), if_pos h]

def tot2N (d : V2 U64) : Nat := d.x.toNat * d.y.toNat
def tot3N (d : V3 U64) : Nat := d.x.toNat * d.y.toNat * d.z.toNat
def In2 (d c : V2 U64) : Prop := c.x < d.x ∧ c.y < d.y
def In3 (d c : V3 U64) : Prop := c.x < d.x ∧ c.y < d.y ∧ c.z < d.z

instance (d c : V2 U64) : Decidable (In2 d c) := by unfold In2; infer_instance
instance (d c : V3 U64) : Decidable (In3 d c) := by unfold In3; infer_instance

theorem In2.lt {d c : V2 U64} (h : In2 d c) : c.x.toNat < d.x.toNat ∧ c.y.toNat < d.y.toNat := h
theorem In3.lt {d c : V3 U64} (h : In3 d c) : c.x.toNat < d.x.toNat ∧ c.y.toNat < d.y.toNat ∧ c.z.toNat < d.z.toNat := h

theorem total2_toNat {d : V2 U64} (h : tot2N d < 2 ^ 64) : (total2 d).toNat = tot2N d := u_mul h

theorem total3_toNat {d : V3 U64} (h : tot3N d < 2 ^ 64) : (total3 d).toNat = tot3N d := u_mul3 h

theorem flatten2_toNat {d c : V2 U64} (hc : In2 d c) (ht : tot2N d < 2 ^ 64) :
    (flatten2 d c).toNat = c.x.toNat + d.x.toNat * c.y.toNat ∧ (flatten2 d c).toNat < tot2N d := by
  have hlt : _ < tot2N d := flat2_lt hc.lt.1 hc.lt.2
  rw [flatten2, flat2_machine (Nat.lt_trans hlt ht)]
  exact ⟨rfl, hlt⟩

theorem flatten3_toNat {d c : V3 U64} (hc : In3 d c) (ht : tot3N d < 2 ^ 64) :
    (flatten3 d c).toNat = flatN d.x.toNat d.y.toNat c.x.toNat c.y.toNat c.z.toNat ∧
      (flatten3 d c).toNat < tot3N d := by
  have hlt : _ < tot3N d := flatN_lt hc.lt.1 hc.lt.2.1 hc.lt.2.2
  rw [flatten3, flat_machine (Nat.zero_lt_of_lt hc.lt.1) (Nat.lt_trans hlt ht)]
  exact ⟨rfl, hlt⟩

theorem reshape2_toNat (d : V2 U64) (i : U64) :
    (reshape2 d i).x.toNat = i.toNat % d.x.toNat ∧ (reshape2 d i).y.toNat = i.toNat / d.x.toNat :=
  ⟨UInt64.toNat_mod .., UInt64.toNat_div ..⟩

/-- `reshape` splits off `z` first and gets the rest of the index by a subtraction: a remainder -/
theorem reshape3_eq (d : V3 U64) (i : U64) :
    reshape3 d i = ⟨i % (d.x * d.y) % d.x, i % (d.x * d.y) / d.x, i / (d.x * d.y)⟩ := by
  unfold reshape3
  simp only [UInt64.mul_assoc, u_sub_div_mul]

theorem reshape3_digits {d : V3 U64} (i : U64) (h : d.x.toNat * d.y.toNat < 2 ^ 64) :
    (reshape3 d i).x.toNat = i.toNat % d.x.toNat ∧
    (reshape3 d i).y.toNat = i.toNat / d.x.toNat % d.y.toNat ∧
    (reshape3 d i).z.toNat = i.toNat / d.x.toNat / d.y.toNat := by
  rw [reshape3_eq]
  simp only [UInt64.toNat_mod, UInt64.toNat_div, u_mul h]
  exact ⟨Nat.mod_mul_right_mod .., Nat.mod_mul_right_div_self .., (Nat.div_div_eq_div_mul ..).symm⟩

theorem xy_lt {d : V3 U64} {i : Nat} (hi : i < tot3N d) (ht : tot3N d < 2 ^ 64) : d.x.toNat * d.y.toNat < 2 ^ 64 :=
  Nat.lt_of_le_of_lt (Nat.le_mul_of_pos_right _ (Nat.zero_lt_of_lt (coords_lt hi).2.2)) ht

/-- every extent component is a non-negative `int` -/
def Dims31 (d : V3i) : Prop := (0 ≤ d.x ∧ d.x < 2 ^ 31) ∧ (0 ≤ d.y ∧ d.y < 2 ^ 31) ∧ (0 ≤ d.z ∧ d.z < 2 ^ 31)
def In3i (d c : V3i) : Prop := (0 ≤ c.x ∧ c.x < d.x) ∧ (0 ≤ c.y ∧ c.y < d.y) ∧ (0 ≤ c.z ∧ c.z < d.z)
def tot3i (d : V3i) : Nat := d.x.toNat * d.y.toNat * d.z.toNat
def idxN (d c : V3i) : Nat := flatN d.x.toNat d.y.toNat c.x.toNat c.y.toNat c.z.toNat

instance (d : V3i) : Decidable (Dims31 d) := by unfold Dims31; infer_instance
instance (d c : V3i) : Decidable (In3i d c) := by unfold In3i; infer_instance

def InBox (l u c : V3i) : Prop := (l.x ≤ c.x ∧ c.x < u.x) ∧ (l.y ≤ c.y ∧ c.y < u.y) ∧ (l.z ≤ c.z ∧ c.z < u.z)

def lexLt (a b : V3i) : Prop := a.z < b.z ∨ (a.z = b.z ∧ (a.y < b.y ∨ (a.y = b.y ∧ a.x < b.x)))

theorem toNat_lt {p q : Int} (hp : 0 ≤ p) (h : p < q) : p.toNat < q.toNat := by omega

theorem eq_of_toNat_eq {p q : Int} (hp : 0 ≤ p) (hq : 0 ≤ q) (h : p.toNat = q.toNat) : p = q := by
  rw [← Int.toNat_of_nonneg hp, ← Int.toNat_of_nonneg hq, h]

theorem In3i.lt {d c : V3i} (h : In3i d c) :
    c.x.toNat < d.x.toNat ∧ c.y.toNat < d.y.toNat ∧ c.z.toNat < d.z.toNat :=
  ⟨toNat_lt h.1.1 h.1.2, toNat_lt h.2.1.1 h.2.1.2, toNat_lt h.2.2.1 h.2.2.2⟩

theorem In3i.ofNat {d : V3i} {x y z : Nat} (hx : x < d.x.toNat) (hy : y < d.y.toNat) (hz : z < d.z.toNat) :
    In3i d ⟨x, y, z⟩ :=
  ⟨⟨Int.natCast_nonneg _, Int.lt_toNat.mp hx⟩, ⟨Int.natCast_nonneg _, Int.lt_toNat.mp hy⟩,
    ⟨Int.natCast_nonneg _, Int.lt_toNat.mp hz⟩⟩

theorem Dims31.lt {d : V3i} (h : Dims31 d) : d.x.toNat < 2 ^ 31 ∧ d.y.toNat < 2 ^ 31 ∧ d.z.toNat < 2 ^ 31 :=
  ⟨toNat_lt h.1.1 h.1.2, toNat_lt h.2.1.1 h.2.1.2, toNat_lt h.2.2.1 h.2.2.2⟩

theorem Dims31.toU {d : V3i} (h : Dims31 d) :
    (toU d.x).toNat = d.x.toNat ∧ (toU d.y).toNat = d.y.toNat ∧ (toU d.z).toNat = d.z.toNat := by
  have e : ∀ {i : Int}, 0 ≤ i ∧ i < 2 ^ 31 → (C17.toU i).toNat = i.toNat := fun h =>
    toU_toNat h.1 (Int.lt_trans h.2 (by decide))
  exact ⟨e h.1, e h.2.1, e h.2.2⟩

theorem In3i.toU {d c : V3i} (h : In3i d c) (hd : Dims31 d) :
    (toU c.x).toNat = c.x.toNat ∧ (toU c.y).toNat = c.y.toNat ∧ (toU c.z).toNat = c.z.toNat :=
  Dims31.toU (d := c) ⟨⟨h.1.1, Int.lt_trans h.1.2 hd.1.2⟩, ⟨h.2.1.1, Int.lt_trans h.2.1.2 hd.2.1.2⟩,
    ⟨h.2.2.1, Int.lt_trans h.2.2.2 hd.2.2.2⟩⟩

theorem idxN_lt {d c : V3i} (hc : In3i d c) : idxN d c < tot3i d :=
  flatN_lt hc.lt.1 hc.lt.2.1 hc.lt.2.2

theorem idxN_inj {d c c' : V3i} (hc : In3i d c) (hc' : In3i d c') (h : idxN d c = idxN d c') : c = c' := by
  obtain ⟨h1, h2, h3⟩ := flatN_inj hc.lt.1 hc.lt.2.1 hc'.lt.1 hc'.lt.2.1 h
  cases c; cases c'
  simp only [V3.mk.injEq]
  exact ⟨eq_of_toNat_eq hc.1.1 hc'.1.1 h1, eq_of_toNat_eq hc.2.1.1 hc'.2.1.1 h2, eq_of_toNat_eq hc.2.2.1 hc'.2.2.1 h3⟩

theorem lexLt_idxN {d a b : V3i} (ha : In3i d a) (h : lexLt a b) : idxN d a < idxN d b := by
  refine flatN_lt_flatN ha.lt.1 ha.lt.2.1 ?_
  rcases h with h | ⟨hz, h | ⟨hy, hx⟩⟩
  · exact .inl (toNat_lt ha.2.2.1 h)
  · exact .inr ⟨congrArg _ hz, .inl (toNat_lt ha.2.1.1 h)⟩
  · exact .inr ⟨congrArg _ hz, .inr ⟨congrArg _ hy, toNat_lt ha.1.1 hx⟩⟩

theorem longProduct_toNat {d : V3i} (hd : Dims31 d) (ht : tot3i d < 2 ^ 64) :
    (longProduct d).toNat = tot3i d := by
  obtain ⟨hx, hy, hz⟩ := hd.toU
  rw [longProduct, u_mul3 (by rwa [hx, hy, hz]), hx, hy, hz]; rfl

theorem longIndex_toNat {d c : V3i} (hd : Dims31 d) (hc : In3i d c) (ht : tot3i d < 2 ^ 64) :
    (longIndex c d).toNat = idxN d c := by
  obtain ⟨hx, hy, -⟩ := hd.toU
  obtain ⟨cx, cy, cz⟩ := hc.toU hd
  rw [longIndex, flat_machine (by rw [hx]; exact Nat.zero_lt_of_lt hc.lt.1)
    (by rw [hx, hy, cx, cy, cz]; exact Nat.lt_trans (idxN_lt hc) ht), hx, hy, cx, cy, cz]; rfl

theorem coordsOf_eq {d : V3i} {i : U64} (hd : Dims31 d) (hi : i.toNat < tot3i d) :
    coordsOf i d = ⟨((i.toNat % d.x.toNat : Nat) : Int), ((i.toNat / d.x.toNat % d.y.toNat : Nat) : Int),
      ((i.toNat / d.x.toNat / d.y.toNat : Nat) : Int)⟩ := by
  obtain ⟨h1, h2, h3⟩ := coords_lt hi
  obtain ⟨hx, hy, -⟩ := hd.toU
  obtain ⟨bx, by_, bz⟩ := hd.lt
  have e1 : (i % toU d.x).toNat = i.toNat % d.x.toNat := by rw [UInt64.toNat_mod, hx]
  have e2 : (i / toU d.x % toU d.y).toNat = i.toNat / d.x.toNat % d.y.toNat := by
    rw [UInt64.toNat_mod, UInt64.toNat_div, hx, hy]
  have e3 : (i / toU d.x / toU d.y).toNat = i.toNat / d.x.toNat / d.y.toNat := by
    rw [UInt64.toNat_div, UInt64.toNat_div, hx, hy]
  rw [coordsOf, toI32_small (e1 ▸ Nat.lt_trans h1 bx), toI32_small (e2 ▸ Nat.lt_trans h2 by_),
    toI32_small (e3 ▸ Nat.lt_trans h3 bz), e1, e2, e3]

section
variable {C : Type} [DecidableEq C]

theorem iterLoop_unfold (rs : C → U64 → C) (d : C) (e cur : U64) :
    iterLoop rs d e cur = if cur ≠ e then rs d cur :: iterLoop rs d e (cur + 1) else [] := by
  rw [iterLoop]
  by_cases h : cur = e
  · simp [Iter.ne, Iter.eq, h]
  · simp [Iter.ne, Iter.eq, h, Iter.preInc]

theorem iterLoop_eq (rs : C → U64 → C) (d : C) (e : U64) :
    ∀ (n : Nat) (cur : U64), cur.toNat + n = e.toNat →
      iterLoop rs d e cur = (List.range' cur.toNat n).map (fun i => rs d (UInt64.ofNat i)) := by
  intro n
  induction n with
  | zero =>
    intro cur h
    rw [iterLoop_unfold, if_neg (by simpa using UInt64.toNat_inj.mp h)]; rfl
  | succ n ih =>
    intro cur h
    have hne : cur ≠ e := by rintro rfl; omega
    have hlt := e.toNat_lt
    have h1 : (cur + 1).toNat = cur.toNat + 1 := u_add (by simp; omega)
    rw [iterLoop_unfold, if_pos hne, ih (cur + 1) (by omega), List.range'_succ, List.map_cons, h1,
      UInt64.ofNat_toNat]

theorem iterLoop_range (rs : C → U64 → C) (d : C) (e : U64) :
    iterLoop rs d e 0 = (List.range e.toNat).map (fun i => rs d (UInt64.ofNat i)) := by
  rw [iterLoop_eq rs d e e.toNat 0 (by simp), List.range_eq_range']; rfl

/-- What "visits every coordinate exactly once, in flattened order" rests on; `rs`, `fl`, `P` stand for
    `reshape`, `flatten` and "inside the extent" of either sequence. -/
theorem iterLoop_spec {rs : C → U64 → C} {fl : C → U64} {P : C → Prop} {d : C} {e : U64}
    {n : Nat} (he : e.toNat = n) (h1 : ∀ i : U64, i.toNat < n → P (rs d i) ∧ fl (rs d i) = i)
    (h2 : ∀ c, P c → (fl c).toNat < n ∧ rs d (fl c) = c) :
    (iterLoop rs d e 0).map (fun c => (fl c).toNat) = List.range n ∧ ∀ c, c ∈ iterLoop rs d e 0 ↔ P c := by
  subst he
  have hi : ∀ i ∈ List.range e.toNat, (UInt64.ofNat i).toNat = i := fun i hi =>
    ofNat_toNat_lt (List.mem_range.mp hi) e.toNat_lt
  rw [iterLoop_range]
  refine ⟨?_, fun c => ⟨?_, fun hc => ?_⟩⟩
  · rw [List.map_map]
    refine (List.map_congr_left fun i h => ?_).trans (List.map_id _)
    rw [Function.comp, (h1 _ (by rw [hi i h]; exact List.mem_range.mp h)).2, hi i h]; rfl
  · rw [List.mem_map]
    rintro ⟨i, h, rfl⟩
    exact (h1 _ (by rw [hi i h]; exact List.mem_range.mp h)).1
  · exact List.mem_map.mpr ⟨_, List.mem_range.mpr (h2 c hc).1, by rw [UInt64.ofNat_toNat]; exact (h2 c hc).2⟩

theorem backLoop_reverse (rs : C → U64 → C) (d : C) (e : U64) :
    backLoop rs d e = (iterLoop rs d e 0).reverse := by
  rw [iterLoop_range]
  generalize hn : e.toNat = n
  induction n generalizing e with
  | zero => rw [UInt64.toNat_inj.mp (hn.trans UInt64.toNat_zero.symm), backLoop]; simp
  | succ n ih =>
    have h1 : (1 : U64) ≤ e := by rw [UInt64.le_iff_toNat_le, hn]; simp
    have hs : (e - 1).toNat = n := by rw [UInt64.toNat_sub_of_le _ _ h1, hn]; rfl
    rw [backLoop, dif_pos (by rintro rfl; simp at hn), ih _ hs, List.range_succ, List.map_append,
      List.reverse_append, ← hs, List.map_singleton, UInt64.ofNat_toNat]; rfl

end

def rangeI (lo hi : Int) : List Int := (List.range (hi - lo).toNat).map (fun (k : Nat) => lo + (k : Int))

theorem mem_rangeI {lo hi i : Int} : i ∈ rangeI lo hi ↔ lo ≤ i ∧ i < hi := by
  unfold rangeI
  simp only [List.mem_map, List.mem_range]
  constructor
  · rintro ⟨k, hk, rfl⟩; omega
  · intro h; exact ⟨(i - lo).toNat, by omega, by omega⟩

theorem rangeI_empty {lo hi : Int} (h : hi ≤ lo) : rangeI lo hi = [] := by
  unfold rangeI
  rw [show (hi - lo).toNat = 0 by omega]; rfl

theorem rangeI_cons {lo hi : Int} (h : lo < hi) : rangeI lo hi = lo :: rangeI (lo + 1) hi := by
  unfold rangeI
  rw [show (hi - lo).toNat = (hi - (lo + 1)).toNat + 1 by omega, List.range_succ_eq_map]
  simp only [List.map_cons, List.map_map]
  congr 1
  · simp
  · apply List.map_congr_left; intro k _; simp; omega

theorem rangeI_zero (n : Int) : rangeI 0 n = (List.range n.toNat).map (fun (k : Nat) => (k : Int)) := by
  unfold rangeI; simp

theorem rangeI_pairwise (lo hi : Int) : (rangeI lo hi).Pairwise (· < ·) := by
  unfold rangeI
  rw [List.pairwise_map]
  exact List.pairwise_lt_range.imp (by intro a b h; omega)

theorem loopI_flatMap {α : Type} (lo hi : Int) (body : Int → List α) :
    loopI lo hi body = (rangeI lo hi).flatMap body := by
  induction lo using loopI.induct hi with
  | case1 lo h ih => rw [loopI, if_pos h, ih, rangeI_cons h]; rfl
  | case2 lo h => rw [loopI, if_neg h, rangeI_empty (Int.not_lt.mp h)]; rfl

theorem forEach_eq (l u : V3i) :
    forEach l u = (rangeI l.z u.z).flatMap fun z => (rangeI l.y u.y).flatMap fun y =>
      (rangeI l.x u.x).map fun x => (⟨x, y, z⟩ : V3i) := by
  simp only [forEach, loopI_flatMap, List.map_eq_flatMap]

theorem InBox.in3i {l u d c : V3i} (h : InBox l u c) (hl : 0 ≤ l.x ∧ 0 ≤ l.y ∧ 0 ≤ l.z)
    (hu : u.x ≤ d.x ∧ u.y ≤ d.y ∧ u.z ≤ d.z) : In3i d c := by
  have ax : ∀ {c l u d : Int}, l ≤ c ∧ c < u → 0 ≤ l → u ≤ d → 0 ≤ c ∧ c < d := by omega
  exact ⟨ax h.1 hl.1 hu.1, ax h.2.1 hl.2.1 hu.2.1, ax h.2.2 hl.2.2 hu.2.2⟩

theorem mem_forEach {l u c : V3i} : c ∈ forEach l u ↔ InBox l u c := by
  rw [forEach_eq]
  simp only [List.mem_flatMap, List.mem_map, mem_rangeI, InBox]
  constructor
  · rintro ⟨z, hz, y, hy, x, hx, rfl⟩; exact ⟨hx, hy, hz⟩
  · rintro ⟨hx, hy, hz⟩; exact ⟨c.z, hz, c.y, hy, c.x, hx, rfl⟩

theorem mem_forEachSize {s c : V3i} : c ∈ forEachSize s ↔ In3i s c := mem_forEach

theorem forEach_pairwise (l u : V3i) : (forEach l u).Pairwise lexLt := by
  rw [forEach_eq, List.pairwise_flatMap]
  refine ⟨?_, ?_⟩
  · intro z _
    rw [List.pairwise_flatMap]
    refine ⟨?_, ?_⟩
    · intro y _
      rw [List.pairwise_map]
      exact (rangeI_pairwise _ _).imp (by intro a b h; right; exact ⟨rfl, Or.inr ⟨rfl, h⟩⟩)
    · refine (rangeI_pairwise _ _).imp ?_
      intro a b h p hp q hq
      simp only [List.mem_map] at hp hq
      obtain ⟨_, _, rfl⟩ := hp; obtain ⟨_, _, rfl⟩ := hq
      right; exact ⟨rfl, Or.inl h⟩
  · refine (rangeI_pairwise _ _).imp ?_
    intro a b h p hp q hq
    simp only [List.mem_flatMap, List.mem_map] at hp hq
    obtain ⟨_, _, _, _, rfl⟩ := hp; obtain ⟨_, _, _, _, rfl⟩ := hq
    left; exact h

theorem flatMap_range_mul {β : Type} (g : Nat → β) (m : Nat) : ∀ n : Nat,
    (List.range n).flatMap (fun b => (List.range m).map (fun a => g (a + m * b))) = (List.range (m * n)).map g := by
  intro n
  induction n with
  | zero => simp
  | succ n ih =>
    rw [List.range_succ, List.flatMap_append, ih, Nat.mul_succ, List.range_add, List.map_append, List.map_map]
    simp only [List.flatMap_cons, List.flatMap_nil, List.append_nil]
    congr 1
    apply List.map_congr_left; intro a _; simp [Nat.add_comm]

theorem flatMap_range_flatN (dx dy dz : Nat) :
    ((List.range dz).flatMap fun z => (List.range dy).flatMap fun y => (List.range dx).map fun x => flatN dx dy x y z) =
      List.range (dx * dy * dz) := by
  have h : ∀ z, ((List.range dy).flatMap fun y => (List.range dx).map fun x => flatN dx dy x y z) =
      (List.range (dx * dy)).map fun k => k + dx * dy * z := fun z => by
    rw [← flatMap_range_mul]
    simp only [flatN, Nat.mul_add, Nat.mul_assoc, Nat.add_assoc]
  simp only [h]
  exact (flatMap_range_mul id _ dz).trans (List.map_id _)

theorem forEachSize_idxN (s : V3i) :
    (forEachSize s).map (idxN s) = List.range (tot3i s) := by
  rw [tot3i, ← flatMap_range_flatN, forEachSize, forEach_eq]
  simp only [rangeI_zero, List.map_flatMap, List.flatMap_map, List.map_map]
  rfl

/-! ## ActualArray3D

Array3D.h writes the index expression `x + size_t(dims.x) * (y + size_t(dims.y) * z)` out again in
`ActualArray3D::get` and `indexOf`, and the cell count again in `numElements`, the allocating constructor and
`SubBoxArray3D::numElements`; the model follows it.  So `a.getIndex w` is `longIndex (a.clampWhere w) a.dims`,
`a.indexOf c` is `longIndex c a.dims`, and `a.numElements`, `Actual.allocCount a.dims` are `longProduct a.dims`,
all by unfolding: what is proved about `longIndex` / `longProduct` is used for them as it stands. -/

def Actual.WF (a : Actual) : Prop := Dims31 a.dims ∧ tot3i a.dims < 2 ^ 64 ∧ a.vals.length = tot3i a.dims

def NonEmpty (d : V3i) : Prop := 0 < d.x ∧ 0 < d.y ∧ 0 < d.z

/-! `get` clamps each axis on its own, `w ↦ max 0 (min w (d - 1))`: into `[0, d)` when `d > 0`. -/

theorem clamp_if {w d : Int} (hd : 0 < d) :
    max 0 (min w (d - 1)) = if w < 0 then 0 else if d ≤ w then d - 1 else w := by
  split
  · omega
  · split <;> omega

theorem clamp_mem {w d : Int} (hd : 0 < d) : 0 ≤ max 0 (min w (d - 1)) ∧ max 0 (min w (d - 1)) < d := by omega

theorem clamp_id {w d : Int} (h : 0 ≤ w ∧ w < d) : max 0 (min w (d - 1)) = w := by omega

theorem clampWhere_eq (a : Actual) (w : V3i) :
    a.clampWhere w = ⟨max 0 (min w.x (a.dims.x - 1)), max 0 (min w.y (a.dims.y - 1)), max 0 (min w.z (a.dims.z - 1))⟩ :=
  rfl

theorem clampWhere_in {a : Actual} (h : NonEmpty a.dims) (w : V3i) : In3i a.dims (a.clampWhere w) :=
  ⟨clamp_mem h.1, clamp_mem h.2.1, clamp_mem h.2.2⟩

theorem clampWhere_id {a : Actual} {c : V3i} (h : In3i a.dims c) : a.clampWhere c = c := by
  rw [clampWhere_eq, clamp_id h.1, clamp_id h.2.1, clamp_id h.2.2]

theorem clamp_idem (w d : Int) : max 0 (min (max 0 (min w (d - 1))) (d - 1)) = max 0 (min w (d - 1)) := by omega

theorem Actual.get_clamp (a : Actual) (w : V3i) : a.get w = a.get (a.clampWhere w) := by
  unfold Actual.get Actual.getIndex
  simp only [clampWhere_eq, clamp_idem]

theorem Actual.get_eq {a : Actual} (hw : a.WF) {c : V3i} (hc : In3i a.dims c) :
    a.get c = a.vals.getD (idxN a.dims c) 0 := by
  -- `a.get c` read through `longIndex`, see the head of this section
  show a.vals.getD (longIndex (a.clampWhere c) a.dims).toNat 0 = _
  rw [clampWhere_id hc, longIndex_toNat hw.1 hc hw.2.1]

theorem Actual.set_vals {a : Actual} (hw : a.WF) {c : V3i} (hc : In3i a.dims c) (v : Int) :
    a.set c v = ⟨a.dims, a.vals.set (idxN a.dims c) v⟩ := by
  rw [Actual.set, Actual.size, longIndex_toNat hw.1 hc hw.2.1]

theorem Actual.set_WF {a : Actual} (hw : a.WF) (c : V3i) (v : Int) : (a.set c v).WF :=
  ⟨hw.1, hw.2.1, (List.length_set ..).trans hw.2.2⟩

theorem Actual.get_set {a : Actual} (hw : a.WF) {c c' : V3i} (hc : In3i a.dims c) (hc' : In3i a.dims c') (v : Int) :
    (a.set c v).get c' = if c' = c then v else a.get c' := by
  rw [Actual.get_eq (Actual.set_WF hw c v) hc', Actual.get_eq hw hc', Actual.set_vals hw hc]
  have hlt : idxN a.dims c < a.vals.length := by rw [hw.2.2]; exact idxN_lt hc
  simp only [List.getD_eq_getElem?_getD, List.getElem?_set]
  by_cases h : c' = c
  · subst h; simp [hlt]
  · have : idxN a.dims c ≠ idxN a.dims c' := fun he => h (idxN_inj hc hc' he).symm
    simp [h, this]

theorem foldr_set_get {t : Int} {a : Actual} (hw : a.WF) : ∀ l : List V3i, (∀ c ∈ l, In3i a.dims c) →
    (l.foldr (fun idx a => a.set idx t) a).WF ∧ (l.foldr (fun idx a => a.set idx t) a).dims = a.dims ∧
      ∀ c ∈ l, (l.foldr (fun idx a => a.set idx t) a).get c = t
  | [], _ => ⟨hw, rfl, nofun⟩
  | x :: rest, hl => by
    obtain ⟨r1, r2, r3⟩ := foldr_set_get hw rest fun c hc => hl c (List.mem_cons_of_mem _ hc)
    refine ⟨Actual.set_WF r1 x t, r2, fun c hc => ?_⟩
    rw [List.foldr_cons, Actual.get_set r1 (r2 ▸ hl x List.mem_cons_self) (r2 ▸ hl c hc)]
    rcases List.mem_cons.mp hc with h | h
    · exact if_pos h
    · rw [r3 c h, ite_self]

theorem Actual.clear_spec {a : Actual} (hw : a.WF) (t : Int) :
    (a.clear t).WF ∧ (a.clear t).dims = a.dims ∧ ∀ c, In3i a.dims c → (a.clear t).get c = t := by
  obtain ⟨r1, r2, r3⟩ := foldr_set_get (t := t) hw (forEachSize a.dims).reverse
    fun c hc => mem_forEachSize.mp (List.mem_reverse.mp hc)
  rw [Actual.clear, List.foldl_eq_foldr_reverse]
  exact ⟨r1, r2, fun c hc => r3 c (List.mem_reverse.mpr (mem_forEachSize.mpr hc))⟩

theorem foldl_extend (vs : List Int) (r : Int × Int) : vs.foldl extend r = (vs.foldl min r.1, vs.foldl max r.2) := by
  induction vs generalizing r with
  | nil => rfl
  | cons x rest ih => exact ih _

theorem getValueRange_eq (a : Array3D Int) (b e : V3i) :
    (a.get b :: (forEach b e).map a.get).min? = some (getValueRange a b e).1 ∧
    (a.get b :: (forEach b e).map a.get).max? = some (getValueRange a b e).2 := by
  rw [getValueRange, ← List.foldl_map, foldl_extend]
  exact ⟨List.min?_cons', List.max?_cons'⟩

end RkVerif.C17
