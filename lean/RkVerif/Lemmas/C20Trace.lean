/-
Helper lemmas for C20 (trace recorder).  What `saveLog` writes is a sequence of objects of
Lemmas/C20Json.lean, whatever the registry holds (`objs_emitThreads`); for threads whose end
events all find an open begin (`EndsMatched`) it is the explicit sequence `objsV`: per thread the
metadata object and one pass `scan` over the thread's events, in which chunk boundaries do not
appear (`emitChunks_scan`).  What the reader returns is then read off the `flat` values of these
objects: the objects of thread `i` (`threadObjs_objsV`), their canonical events (`canon_scan`) and
the nesting check on them (`nestCheck_scan`).  Recording: after a valid history the registry is the
list of calling threads, each with the log of its own calls (`runR_eq`); what a thread's log holds
(`logOf_all`, `endsMatched_evsOf`) and what of it depends on the chunk size are facts about one thread.
-/
import RkVerif.Lemmas.C20Json
namespace RkVerif.C20
open Tok

theorem withCommas_append (a b : List (List Tok)) : withCommas (a ++ b) = withCommas a ++ withCommas b := by
  simp [withCommas]

theorem withCommas_cons_eq (o : List Tok) (os : List (List Tok)) :
    withCommas (o :: os) = sepBy (o :: os) ++ [comma] := by
  induction os generalizing o with
  | nil => simp [withCommas, sepBy]
  | cons o' os ih =>
    have := ih o'
    simp only [withCommas, List.flatMap_cons] at this ⊢
    rw [this]; simp [sepBy]

theorem overwriteLast_withCommas (o : List Tok) (os : List (List Tok)) :
    overwriteLast (lbrack :: withCommas (o :: os)) = lbrack :: sepBy (o :: os) ++ [rbrack] := by
  rw [withCommas_cons_eq, overwriteLast, ← List.cons_append, List.getLast?_concat, List.dropLast_concat]
  rfl

theorem finish_eq (objs : List (List Tok)) :
    finish (lbrack :: withCommas objs) = lbrack :: sepBy objs ++ [rbrack] := by
  cases objs with
  | nil => rfl
  | cons o os =>
    rw [finish, if_pos (by simp [withCommas_cons_eq]), overwriteLast_withCommas]

theorem finishOld_eq (o : List Tok) (os : List (List Tok)) :
    finishOld (lbrack :: withCommas (o :: os)) = lbrack :: sepBy (o :: os) ++ [rbrack] :=
  overwriteLast_withCommas o os

/-! ## the emitted objects

The model's token lists (`metaTokens`, `builtinTokens`, what `emitOne` assembles) as data;
`metaTokens_eq` and `emitOne_eq` say that the tokens are those of the model. -/

/-- the time stamp `saveLog` prints: microseconds -/
def tsOf (e : TEvent) : Nat := e.time / 1000

def objO (ph : String) (pid tid : Nat) (rest : List (String × Fld)) : JO :=
  ⟨("ph", .atom (.s ph)), ("pid", .atom (.n pid)) :: ("tid", .atom (.n tid)) :: rest⟩

def metaO (pid tid : Nat) (what name : String) : JO :=
  objO "M" pid tid [("name", .atom (.s what)), ("args", .sub ("name", .s name) [])]

def builtinO (pid tid : Nat) (b : TEvent) : JO :=
  objO "C" pid tid [("ts", .atom (.n (tsOf b))), ("name", .atom (.s "cpuUtilization")), ("cat", .atom (.s "builtin")),
    ("args", .sub ("value", .f) [])]

def catFields (e : TEvent) : List (String × Fld) :=
  match e.cat with
  | some c => if e.ty ≠ .end_ then [("cat", .atom (.s c))] else []
  | none => []

def argFields (e : TEvent) : List (String × Fld) :=
  match e.ty with
  | .end_ => [("args", .sub ("cpuUtilization", .f) [])]
  | .counter => [("args", .sub ("value", .n e.value) [])]
  | _ => []

def evO (pid tid : Nat) (e : TEvent) : JO :=
  objO (phOf e.ty) pid tid
    ([("ts", .atom (.n (tsOf e))), ("name", .atom (.s (e.name.getD "")))] ++ catFields e ++ argFields e)

def derived (pid tid : Nat) (stack : List TEvent) (e : TEvent) : List JO :=
  ((stack.head?.filter fun b => e.ty = .end_ ∧ (e.time - b.time) / 1000 > 100).map (builtinO pid tid)).toList

/-- the begin stack after the loop body: `emitChunk` pushes a begin, `emitOne` pops at an end -/
def stackAfter (stack : List TEvent) (e : TEvent) : List TEvent :=
  match e.ty with
  | .begin => e :: stack
  | .end_ => stack.tail
  | _ => stack

theorem derived_of_ne {pid tid : Nat} {stack : List TEvent} {e : TEvent} (h : e.ty ≠ .end_) :
    derived pid tid stack e = [] := by
  simp [derived, h]

theorem derived_end {pid tid : Nat} {b : TEvent} {st : List TEvent} {e : TEvent} (h : e.ty = .end_) :
    derived pid tid (b :: st) e = if (e.time - b.time) / 1000 > 100 then [builtinO pid tid b] else [] := by
  simp only [derived, h, List.head?_cons, Option.filter_some, true_and, decide_eq_true_eq]
  split <;> rfl

theorem metaTokens_eq (pid tid : Nat) (what name : String) :
    metaTokens pid tid what name = withCommas [(metaO pid tid what name).toks] := rfl

theorem evO_toks (pid tid : Nat) (e : TEvent) :
    (evO pid tid e).toks = evHead pid tid e ++ evCat e ++
      (argFields e).flatMap (fun m => comma :: str m.1 :: colon :: m.2.toks) ++ [rbrace] := by
  have hc : (catFields e).flatMap (fun m => comma :: str m.1 :: colon :: m.2.toks) = evCat e := by
    unfold catFields evCat; cases e.cat <;> simp; split <;> rfl
  simp only [JO.toks, members_cons, evO, objO, List.flatMap_append, List.flatMap_cons, List.flatMap_nil, hc]
  simp [evHead, Fld.toks, Val.tok, tsOf]

theorem emitOne_eq (pid tid : Nat) (stack : List TEvent) (e : TEvent) (h : ¬ (e.ty = .end_ ∧ stack = [])) :
    emitOne pid tid (if e.ty = .begin then e :: stack else stack) e =
      (withCommas ((evO pid tid e :: derived pid tid stack e).map JO.toks), stackAfter stack e) := by
  have hw : withCommas ((evO pid tid e :: derived pid tid stack e).map JO.toks) =
      evHead pid tid e ++ evCat e ++ (argFields e).flatMap (fun m => comma :: str m.1 :: colon :: m.2.toks) ++
        [rbrace, comma] ++ (derived pid tid stack e).flatMap fun o => o.toks ++ [comma] := by
    simp [withCommas, evO_toks, List.flatMap_map]
  rw [hw]
  unfold emitOne stackAfter argFields
  cases hty : e.ty with
  | end_ =>
    cases stack with
    | nil => exact absurd ⟨hty, rfl⟩ h
    | cons b st =>
      rw [derived_end hty]
      by_cases hl : (e.time - b.time) / 1000 > 100 <;>
        simp only [hl, reduceCtorEq, if_true, if_false, List.flatMap_cons, List.flatMap_nil, List.append_nil,
          List.append_assoc] <;> rfl
  | _ =>
    rw [derived_of_ne (by rw [hty]; decide)]
    simp [Fld.toks, members, sepBy, Val.tok]

theorem emitChunk_cons (pid tid : Nat) (stack : List TEvent) (e : TEvent) (rest : List TEvent) :
    emitChunk pid tid stack (e :: rest) =
      if e.ty = .end_ ∧ stack = [] then ([], stack) else
        let r := emitChunk pid tid (stackAfter stack e) rest
        (withCommas ((evO pid tid e :: derived pid tid stack e).map JO.toks) ++ r.1, r.2) := by
  have hs : (e.ty = .end_ ∧ (if e.ty = .begin then e :: stack else stack) = []) ↔ (e.ty = .end_ ∧ stack = []) := by
    split <;> simp_all
  rw [emitChunk]
  simp only [hs]
  split
  · next h => rw [if_neg (by simp [h.1])]
  · next h => rw [emitOne_eq pid tid stack e h]

def Objs (ts : List Tok) : Prop := ∃ os : List JO, ts = withCommas (os.map JO.toks)

theorem Objs.append {a b : List Tok} : Objs a → Objs b → Objs (a ++ b)
  | ⟨x, hx⟩, ⟨y, hy⟩ => ⟨x ++ y, by rw [hx, hy, List.map_append, withCommas_append]⟩

theorem objs_emitChunk (pid tid : Nat) (stack : List TEvent) (evs : List TEvent) :
    Objs (emitChunk pid tid stack evs).1 := by
  induction evs generalizing stack with
  | nil => exact ⟨[], rfl⟩
  | cons e rest ih =>
    rw [emitChunk_cons]
    split
    · exact ⟨[], rfl⟩
    · exact .append ⟨_, rfl⟩ (ih _)

theorem objs_emitChunks (pid tid : Nat) (stack : List TEvent) (chunks : List (List TEvent)) :
    Objs (emitChunks pid tid stack chunks).1 := by
  induction chunks generalizing stack with
  | nil => exact ⟨[], rfl⟩
  | cons c cs ih => exact .append (objs_emitChunk ..) (ih _)

theorem objs_emitThreads (pid : Nat) (idText : Nat → String) (n : Nat) (ths : List (Nat × ThreadLog)) :
    Objs (emitThreads pid idText n ths) := by
  induction ths generalizing n with
  | nil => exact ⟨[], rfl⟩
  | cons th rest ih => exact .append (.append ⟨[_], metaTokens_eq ..⟩ (objs_emitChunks ..)) (ih _)

def procObjs (pid : Nat) : Option String → List JO
  | some p => [metaO pid 0 "process_name" p]
  | none => []

theorem saveLog_eq (pid : Nat) (proc : Option String) (idText : Nat → String) (ths : List (Nat × ThreadLog))
    {os : List JO} (h : emitThreads pid idText 0 ths = withCommas (os.map JO.toks)) :
    saveLog pid proc idText ths = lbrack :: sepBy ((procObjs pid proc ++ os).map JO.toks) ++ [rbrack] := by
  rw [saveLog, saveLogBody.eq_def, h, ← finish_eq, List.map_append, withCommas_append]
  cases proc <;> rfl

theorem saveLog_objs (pid : Nat) (proc : Option String) (idText : Nat → String) (ths : List (Nat × ThreadLog)) :
    ∃ os : List JO, saveLog pid proc idText ths = lbrack :: sepBy (os.map JO.toks) ++ [rbrack] :=
  (objs_emitThreads pid idText 0 ths).elim fun _ h => ⟨_, saveLog_eq pid proc idText ths h⟩

def scan (pid tid : Nat) : List TEvent → List TEvent → List JO
  | _, [] => []
  | stack, e :: rest => evO pid tid e :: derived pid tid stack e ++ scan pid tid (stackAfter stack e) rest

/-- starting with the begin stack `stack`, every end event of the sequence finds an open begin (begins
    may stay open): the event loop of `saveLog` never `break`s -/
def EndsMatched : List TEvent → List TEvent → Prop
  | _, [] => True
  | stack, e :: rest => ¬ (e.ty = .end_ ∧ stack = []) ∧ EndsMatched (stackAfter stack e) rest

theorem endsMatched_append (stack a b : List TEvent) :
    EndsMatched stack (a ++ b) ↔ EndsMatched stack a ∧ EndsMatched (a.foldl stackAfter stack) b := by
  induction a generalizing stack with
  | nil => simp [EndsMatched]
  | cons e a ih => simp [EndsMatched, ih, and_assoc]

theorem scan_append (pid tid : Nat) (stack a b : List TEvent) :
    scan pid tid stack (a ++ b) = scan pid tid stack a ++ scan pid tid (a.foldl stackAfter stack) b := by
  induction a generalizing stack with
  | nil => rfl
  | cons e a ih => simp [scan, ih]

theorem emitChunk_scan {pid tid : Nat} {stack evs : List TEvent} (h : EndsMatched stack evs) :
    emitChunk pid tid stack evs = (withCommas ((scan pid tid stack evs).map JO.toks), evs.foldl stackAfter stack) := by
  induction evs generalizing stack with
  | nil => rfl
  | cons e rest ih => rw [emitChunk_cons, if_neg h.1, ih h.2, scan, List.map_append, withCommas_append]; rfl

theorem emitChunks_scan {pid tid : Nat} {stack : List TEvent} {chunks : List (List TEvent)}
    (h : EndsMatched stack chunks.flatten) :
    emitChunks pid tid stack chunks =
      (withCommas ((scan pid tid stack chunks.flatten).map JO.toks), chunks.flatten.foldl stackAfter stack) := by
  induction chunks generalizing stack with
  | nil => rfl
  | cons c cs ih =>
    rw [List.flatten_cons, endsMatched_append] at h
    rw [emitChunks, emitChunk_scan h.1, ih h.2, List.flatten_cons, scan_append, List.map_append,
      withCommas_append, List.foldl_append]

def ThreadLog.all (l : ThreadLog) : List TEvent := l.chunks.flatten

def view (p : Nat × ThreadLog) : Nat × String × List TEvent := (p.1, p.2.threadName, p.2.all)

def objsV (pid : Nat) (idText : Nat → String) : Nat → List (Nat × String × List TEvent) → List JO
  | _, [] => []
  | n, (t, nm, evs) :: rest =>
    metaO pid n "thread_name" (if nm ≠ "" then nm else idText t) :: scan pid n [] evs ++ objsV pid idText (n + 1) rest

theorem emitThreads_eq (pid : Nat) (idText : Nat → String) (n : Nat) (ths : List (Nat × ThreadLog))
    (h : ∀ th ∈ ths, EndsMatched [] th.2.all) :
    emitThreads pid idText n ths = withCommas ((objsV pid idText n (ths.map view)).map JO.toks) := by
  induction ths generalizing n with
  | nil => rfl
  | cons th rest ih =>
    rw [List.forall_mem_cons] at h
    rw [emitThreads, emitThread, emitChunks_scan h.1, ih _ h.2, metaTokens_eq, ← withCommas_append,
      ← withCommas_append, List.map_cons, view, objsV, List.map_append, List.map_cons]
    rfl

theorem saveLog_of_view {pid : Nat} {proc : Option String} {idText : Nat → String} {ths : List (Nat × ThreadLog)}
    (h : ∀ th ∈ ths, EndsMatched [] th.2.all) :
    saveLog pid proc idText ths =
      lbrack :: sepBy ((procObjs pid proc ++ objsV pid idText 0 (ths.map view)).map JO.toks) ++ [rbrack] :=
  saveLog_eq pid proc idText ths (emitThreads_eq pid idText 0 ths h)

/-- the canonical event a stored TraceEvent stands for; a counter that carried a category would read
    back as none (`Obj.canon?` takes it for a derived one), recorded counters carry none (`evsOf_ok`) -/
def TEvent.canon (e : TEvent) : Option CEv :=
  match e.ty with
  | .begin => some (.b (e.name.getD "") e.cat)
  | .end_ => some .e
  | .marker => some (.m (e.name.getD "") e.cat)
  | .counter => if e.cat = none then some (.c (e.name.getD "") e.value) else none

/-- the model's `eventsOf` and `threadObjs` both spell this test out; `eventsOf_eq` reduces the first to
    the second, so only `threadObjs` is characterised below -/
abbrev Obj.ofThread (o : Obj) (tid : Nat) : Prop := o.num? "tid" = some tid ∧ o.str? "ph" ≠ some "M"

theorem ofThread_objO (ph : String) (pid tid : Nat) (rest : List (String × Fld)) (i : Nat) :
    (objO ph pid tid rest).flat.ofThread i ↔ tid = i ∧ ph ≠ "M" := by
  simp [objO, Obj.ofThread, JO.flat, Fld.flat, Obj.str?, Obj.num?, Obj.get]

structure Obj.OfEvent (o : Obj) (e : TEvent) : Prop where
  ph : o.str? "ph" = some (phOf e.ty)
  ts : o.num? "ts" = some (tsOf e)
  name : o.str? "name" = some (e.name.getD "")
  cat : o.get "cat" = if e.ty = .end_ then none else e.cat.map .s
  value : o.num? "args.value" = if e.ty = .counter then some e.value else none

theorem get_evO (pid tid : Nat) (e : TEvent) : (evO pid tid e).flat.OfEvent e := by
  obtain ⟨ty, name, cat, value, time⟩ := e
  refine ⟨rfl, rfl, rfl, ?_, ?_⟩
  · cases ty <;> cases cat <;> rfl
  · cases ty <;> cases cat <;> rfl

theorem canon_evO (pid tid : Nat) (e : TEvent) : (evO pid tid e).flat.canon? = e.canon := by
  have g := get_evO pid tid e
  rw [Obj.canon?, TEvent.canon, g.ph, g.name, g.value, Obj.str?, g.cat]
  cases hty : e.ty <;> cases hc : e.cat <;> simp [phOf]

def EvOK (e : TEvent) : Prop := e.ty = .counter → e.cat = none

theorem nestCheck_evO {st : List Nat} {le : Option Nat} {pid tid : Nat} {e : TEvent} (hok : EvOK e) {rest : List Obj} :
    nestCheck st le ((evO pid tid e).flat :: rest) =
      match e.ty with
      | .begin => nestCheck (tsOf e :: st) none rest
      | .end_ => (match st with | b :: st' => nestCheck st' (some b) rest | [] => none)
      | _ => nestCheck st none rest := by
  have g := get_evO pid tid e
  rw [nestCheck.eq_def]
  simp only [g.ph, g.ts]
  cases hty : e.ty with
  | counter => simp [phOf, Obj.str?, g.cat, hty, hok hty]
  | end_ => cases st <;> simp [phOf]
  | _ => simp [phOf]

theorem builtinO_flat (pid tid : Nat) (b : TEvent) :
    (builtinO pid tid b).flat = [("ph", .s "C"), ("pid", .n pid), ("tid", .n tid), ("ts", .n (tsOf b)),
      ("name", .s "cpuUtilization"), ("cat", .s "builtin"), ("args.value", .f)] := rfl

theorem canon_builtinO (pid tid : Nat) (b : TEvent) : (builtinO pid tid b).flat.canon? = none := by
  simp [builtinO_flat, Obj.canon?, Obj.str?, Obj.num?, Obj.get]

theorem nestCheck_builtinO (st : List Nat) (le : Option Nat) (pid tid : Nat) (b : TEvent) (rest : List Obj) :
    nestCheck st le ((builtinO pid tid b).flat :: rest) = if le = some (tsOf b) then nestCheck st none rest else none := by
  rw [nestCheck.eq_def]
  simp [builtinO_flat, Obj.str?, Obj.num?, Obj.get]

theorem mem_derived {pid tid : Nat} {stack : List TEvent} {e : TEvent} {o : JO} (h : o ∈ derived pid tid stack e) :
    ∃ b, o = builtinO pid tid b := by
  simp only [derived, Option.mem_toList, Option.map_eq_some_iff] at h
  obtain ⟨b, _, rfl⟩ := h
  exact ⟨b, rfl⟩

theorem mem_scan {pid tid : Nat} {stack evs : List TEvent} {o : JO} (h : o ∈ scan pid tid stack evs) :
    (∃ e, o = evO pid tid e) ∨ ∃ b, o = builtinO pid tid b := by
  induction evs generalizing stack with
  | nil => cases h
  | cons e rest ih =>
    rw [scan, List.mem_append, List.mem_cons] at h
    rcases h with (h | h) | h
    · exact .inl ⟨e, h⟩
    · exact .inr (mem_derived h)
    · exact ih h

theorem threadObjs_scan (pid tid i : Nat) (stack evs : List TEvent) :
    threadObjs ((scan pid tid stack evs).map JO.flat) i = if tid = i then (scan pid tid stack evs).map JO.flat else [] := by
  have h : ∀ o ∈ scan pid tid stack evs, (o.flat.ofThread i ↔ tid = i) := by
    intro o ho
    rcases mem_scan ho with ⟨e, rfl⟩ | ⟨b, rfl⟩
    · exact (ofThread_objO ..).trans (and_iff_left (by cases e.ty <;> decide))
    · exact (ofThread_objO ..).trans (and_iff_left (by decide))
  rw [threadObjs, List.filter_map]
  split
  · next ht => exact congrArg _ (List.filter_eq_self.mpr fun o ho => decide_eq_true ((h o ho).mpr ht))
  · next ht =>
    exact List.map_eq_nil_iff.mpr (List.filter_eq_nil_iff.mpr fun o ho hd => ht ((h o ho).mp (of_decide_eq_true hd)))

theorem threadObjs_append (a b : List Obj) (i : Nat) : threadObjs (a ++ b) i = threadObjs a i ++ threadObjs b i :=
  List.filter_append ..

theorem threadObjs_metaO (pid tid : Nat) (what name : String) (os : List Obj) (i : Nat) :
    threadObjs ((metaO pid tid what name).flat :: os) i = threadObjs os i :=
  List.filter_cons_of_neg fun hd => ((ofThread_objO ..).mp (of_decide_eq_true hd)).2 rfl

theorem eventsOf_eq (objs : List Obj) (i : Nat) : eventsOf objs i = (threadObjs objs i).filterMap Obj.canon? := by
  simp [eventsOf, threadObjs, List.filterMap_filter]

theorem threadObjs_objsV (pid : Nat) (idText : Nat → String) (n i : Nat) (vs : List (Nat × String × List TEvent)) :
    threadObjs ((objsV pid idText n vs).map JO.flat) i =
      if n ≤ i then ((vs[i - n]?).map fun v => (scan pid i [] v.2.2).map JO.flat).getD [] else [] := by
  induction vs generalizing n with
  | nil => split <;> rfl
  | cons v rest ih =>
    rw [objsV, List.map_append, List.map_cons, threadObjs_append, threadObjs_metaO, threadObjs_scan, ih]
    rcases Nat.lt_trichotomy n i with h | rfl | h
    · have e : i - n = i - (n + 1) + 1 := (Nat.sub_add_cancel (Nat.sub_pos_of_lt h)).symm
      rw [if_neg (Nat.ne_of_lt h), if_pos (Nat.succ_le_of_lt h), if_pos (Nat.le_of_lt h), e, List.getElem?_cons_succ]
      rfl
    · rw [if_pos rfl, if_neg (Nat.not_succ_le_self n), if_pos (Nat.le_refl n), Nat.sub_self, List.append_nil]
      rfl
    · rw [if_neg (Nat.ne_of_gt h), if_neg (Nat.not_le_of_lt (Nat.lt_succ_of_lt h)), if_neg (Nat.not_le_of_lt h)]
      rfl

theorem parse_saveLog (pid : Nat) (proc : Option String) (idText : Nat → String) (ths : List (Nat × ThreadLog))
    (h : ∀ th ∈ ths, EndsMatched [] th.2.all) :
    ∃ objs, parseArray (saveLog pid proc idText ths) = some objs ∧
      ∀ i, threadObjs objs i = ((ths[i]?).map fun th => (scan pid i [] th.2.all).map JO.flat).getD [] := by
  refine ⟨_, by rw [saveLog_of_view h]; exact parseArray_sepBy _, fun i => ?_⟩
  rw [List.map_append, threadObjs_append, threadObjs_objsV, if_pos (Nat.zero_le i), Nat.sub_zero, List.getElem?_map,
    Option.map_map]
  cases proc with
  | none => rfl
  | some p => exact congrArg (· ++ _) (threadObjs_metaO ..)

theorem canon_scan (pid tid : Nat) (stack evs : List TEvent) :
    ((scan pid tid stack evs).map JO.flat).filterMap Obj.canon? = evs.filterMap TEvent.canon := by
  induction evs generalizing stack with
  | nil => rfl
  | cons e rest ih =>
    have h1 : ((derived pid tid stack e).map JO.flat).filterMap Obj.canon? = [] :=
      List.filterMap_eq_nil_iff.mpr fun x hx => by
        obtain ⟨o, ho, rfl⟩ := List.mem_map.mp hx
        obtain ⟨b, rfl⟩ := mem_derived ho
        exact canon_builtinO ..
    rw [scan, List.cons_append, List.map_cons, List.map_append, List.filterMap_cons, List.filterMap_append, canon_evO,
      h1, ih, List.filterMap_cons]
    rfl

theorem nestCheck_scan (pid tid : Nat) (stack evs : List TEvent) (le : Option Nat)
    (hm : EndsMatched stack evs) (hok : ∀ e ∈ evs, EvOK e) :
    nestCheck (stack.map tsOf) le ((scan pid tid stack evs).map JO.flat) = some (evs.foldl stackAfter stack).length := by
  induction evs generalizing stack le with
  | nil => simp [scan, nestCheck]
  | cons e rest ih =>
    have ih' := fun le => ih (stackAfter stack e) le hm.2 fun e' he' => hok e' (by simp [he'])
    rw [scan, List.map_append, List.map_cons, List.cons_append, nestCheck_evO (hok e (by simp)), List.foldl_cons]
    cases hty : e.ty with
    | end_ =>
      cases stack with
      | nil => exact absurd ⟨hty, rfl⟩ hm.1
      | cons b st =>
        simp only [stackAfter, hty, List.tail_cons, List.map_cons] at ih' ⊢
        rw [derived_end hty]
        split <;> simp [nestCheck_builtinO, ih']
    | _ =>
      rw [derived_of_ne (by simp [hty])]
      simpa [stackAfter, hty] using ih' none

theorem all_pushEvent (cs : Nat) (rc : List (List TEvent)) (nm nm' : String) (e : TEvent) :
    (ThreadLog.mk (pushEvent cs rc e) nm).all = (ThreadLog.mk rc nm').all ++ [e] := by
  unfold pushEvent ThreadLog.all ThreadLog.chunks
  cases rc with
  | nil => simp
  | cons last older => simp only []; split <;> simp

theorem all_applyLog (cs : Nat) (l : ThreadLog) (o : Op) (time : Nat) :
    (applyLog cs l o time).all = l.all ++ (o.event? time).toList := by
  cases o <;> simp [applyLog, Op.event?, all_pushEvent cs l.rchunks l.threadName l.threadName] <;> rfl

/-- events stored for thread `t` by the calls of `h` (most recent first), oldest first -/
def evsOf : List Call → Nat → List TEvent
  | [], _ => []
  | c :: earlier, t => evsOf earlier t ++ (if c.tid = t then (c.op.event? c.time).toList else [])

def depthOf : List Call → Nat → Nat
  | [], _ => 0
  | c :: earlier, t =>
    if c.tid = t then
      match c.op with
      | .begin _ _ => depthOf earlier t + 1
      | .end_ => depthOf earlier t - 1
      | _ => depthOf earlier t
    else depthOf earlier t

/-- precondition of the API: no endEvent without an open beginEvent on the same thread -/
def Valid : List Call → Prop
  | [] => True
  | c :: earlier => Valid earlier ∧ (c.op = .end_ → 0 < depthOf earlier c.tid)

instance validDec : (h : List Call) → Decidable (Valid h)
  | [] => isTrue trivial
  | c :: e => by
    unfold Valid
    exact @instDecidableAnd _ _ (validDec e) inferInstance

theorem depthOf_pos_mem (h : List Call) (t : Nat) (hd : 0 < depthOf h t) : ∃ c ∈ h, c.tid = t := by
  induction h with
  | nil => simp [depthOf] at hd
  | cons c earlier ih =>
    by_cases hc : c.tid = t
    · exact ⟨c, by simp, hc⟩
    · rw [depthOf, if_neg hc] at hd
      obtain ⟨c', h1, h2⟩ := ih hd
      exact ⟨c', by simp [h1], h2⟩

theorem updLog_eq_map (cs : Nat) (r : Recorder) (c : Call) (hn : (r.map (·.1)).Nodup) :
    updLog cs r c = r.map fun p => if p.1 = c.tid then (p.1, applyLog cs p.2 c.op c.time) else p := by
  induction r with
  | nil => rfl
  | cons p rest ih =>
    rw [List.map_cons, List.nodup_cons] at hn
    rw [updLog, List.map_cons]
    split
    · next ht =>
      congr 1
      exact (List.map_id' _).symm.trans (List.map_congr_left fun q hq =>
        (if_neg fun e : q.1 = c.tid => hn.1 (ht ▸ e ▸ List.mem_map_of_mem (f := (·.1)) hq)).symm)
    · rw [ih hn.2]

theorem registered_iff (r : Recorder) (t : Nat) : registered r t = true ↔ t ∈ r.map (·.1) := by
  simp [registered]

theorem evsOf_eq (h : List Call) (t : Nat) :
    evsOf h t = (h.reverse.filter (·.tid = t)).filterMap fun c => c.op.event? c.time := by
  induction h with
  | nil => rfl
  | cons c earlier ih =>
    rw [evsOf, ih, List.reverse_cons, List.filter_append, List.filterMap_append]
    by_cases hc : c.tid = t <;> simp [hc]
    cases hev : c.op.event? c.time <;> simp [hev]

theorem evsOf_nil_of_not_mem (h : List Call) (t : Nat) (hn : ∀ c ∈ h, c.tid ≠ t) : evsOf h t = [] := by
  rw [evsOf_eq, List.filter_eq_nil_iff.mpr fun c hc => by simpa using hn c (List.mem_reverse.mp hc)]
  rfl

def tids : List Call → List Nat
  | [] => []
  | c :: earlier => if c.tid ∈ tids earlier then tids earlier else tids earlier ++ [c.tid]

def logOf (cs : Nat) : List Call → Nat → ThreadLog
  | [], _ => ⟨[], ""⟩
  | c :: earlier, t => if c.tid = t then applyLog cs (logOf cs earlier t) c.op c.time else logOf cs earlier t

theorem mem_tids_cons {c : Call} {earlier : List Call} {t : Nat} :
    t ∈ tids (c :: earlier) ↔ t = c.tid ∨ t ∈ tids earlier := by
  rw [tids]
  split
  · next hm => exact ⟨.inr, fun h => h.elim (· ▸ hm) id⟩
  · rw [List.mem_append, List.mem_singleton, or_comm]

theorem mem_tids {h : List Call} {c : Call} (hc : c ∈ h) : c.tid ∈ tids h := by
  induction h with
  | nil => cases hc
  | cons c' earlier ih =>
    rw [mem_tids_cons]
    exact (List.mem_cons.mp hc).imp (congrArg _) ih

theorem nodup_tids (h : List Call) : (tids h).Nodup := by
  induction h with
  | nil => exact List.nodup_nil
  | cons c earlier ih =>
    rw [tids]
    split
    · exact ih
    · next hn =>
      exact List.nodup_append.mpr ⟨ih, List.nodup_cons.mpr ⟨List.not_mem_nil, List.nodup_nil⟩,
        fun a ha b hb e => hn (List.mem_singleton.mp hb ▸ e ▸ ha)⟩

theorem logOf_of_not_mem (cs : Nat) {h : List Call} {t : Nat} (hn : t ∉ tids h) : logOf cs h t = ⟨[], ""⟩ := by
  induction h with
  | nil => rfl
  | cons c earlier ih =>
    rw [mem_tids_cons, not_or] at hn
    rw [logOf, if_neg (Ne.symm hn.1), ih hn.2]

theorem runR_eq (cs : Nat) (h : List Call) (hv : Valid h) : runR cs h = (tids h).map fun t => (t, logOf cs h t) := by
  induction h with
  | nil => rfl
  | cons c earlier ih =>
    have ih := ih hv.1
    have hids : (runR cs earlier).map (·.1) = tids earlier := by rw [ih, List.map_map]; exact List.map_id' _
    have hreg : registered (runR cs earlier) c.tid = true ↔ c.tid ∈ tids earlier := by rw [registered_iff, hids]
    rw [runR, record, tids]
    by_cases hm : c.tid ∈ tids earlier
    · rw [if_pos (hreg.mpr hm), if_pos hm, updLog_eq_map cs _ c (hids ▸ nodup_tids earlier), ih, List.map_map]
      refine List.map_congr_left fun t _ => ?_
      simp only [Function.comp, logOf]
      by_cases e : t = c.tid
      · rw [if_pos e, if_pos e.symm]
      · rw [if_neg e, if_neg (Ne.symm e)]
    · have hne : c.op ≠ .end_ := fun he => by
        obtain ⟨c', h1, h2⟩ := depthOf_pos_mem earlier c.tid (hv.2 he)
        exact hm (h2 ▸ mem_tids h1)
      rw [if_neg (mt hreg.mp hm), if_neg hne, if_neg hm, List.map_append, ih, List.map_singleton, logOf, if_pos rfl,
        logOf_of_not_mem cs hm]
      exact congrArg (· ++ _) (List.map_congr_left fun t ht => by rw [logOf, if_neg fun e : c.tid = t => hm (e ▸ ht)])

theorem logOf_all (cs : Nat) (h : List Call) (t : Nat) : (logOf cs h t).all = evsOf h t := by
  induction h with
  | nil => rfl
  | cons c earlier ih => rw [logOf, evsOf]; split <;> simp [all_applyLog, ih]

theorem logOf_name (cs1 cs2 : Nat) (h : List Call) (t : Nat) : (logOf cs1 h t).threadName = (logOf cs2 h t).threadName := by
  induction h with
  | nil => rfl
  | cons c earlier ih =>
    rw [logOf, logOf]
    split
    · cases c.op <;> simp [applyLog, Op.event?, ih]
    · exact ih

theorem runR_view (cs1 cs2 : Nat) (h : List Call) (hv : Valid h) : (runR cs1 h).map view = (runR cs2 h).map view := by
  rw [runR_eq cs1 h hv, runR_eq cs2 h hv, List.map_map, List.map_map]
  exact List.map_congr_left fun t _ => by simp [view, logOf_all, logOf_name cs1 cs2]

theorem runR_all (cs : Nat) (h : List Call) (hv : Valid h) : ∀ p ∈ runR cs h, p.2.all = evsOf h p.1 := by
  rw [runR_eq cs h hv]
  intro p hp
  obtain ⟨t, _, rfl⟩ := List.mem_map.mp hp
  exact logOf_all cs h t

theorem runR_ids (cs : Nat) (h : List Call) (hv : Valid h) : (runR cs h).map (·.1) = tids h := by
  rw [runR_eq cs h hv, List.map_map]
  exact List.map_id' _

theorem endsMatched_evsOf (h : List Call) (hv : Valid h) (t : Nat) :
    EndsMatched [] (evsOf h t) ∧ ((evsOf h t).foldl stackAfter []).length = depthOf h t := by
  induction h with
  | nil => exact ⟨trivial, rfl⟩
  | cons c earlier ih =>
    obtain ⟨i1, i2⟩ := ih hv.1
    rw [evsOf, endsMatched_append, List.foldl_append, depthOf]
    by_cases hc : c.tid = t
    · subst hc
      have := hv.2
      cases hop : c.op <;> simp_all [Op.event?, EndsMatched, stackAfter]
      exact List.ne_nil_of_length_pos (i2 ▸ this)
    · simp [hc, EndsMatched, i1, i2]

theorem endsMatched_of_valid {h : List Call} (hv : Valid h) {ths : List (Nat × ThreadLog)}
    (hall : ∀ th ∈ ths, th.2.all = evsOf h th.1) : ∀ th ∈ ths, EndsMatched [] th.2.all :=
  fun th hth => hall th hth ▸ (endsMatched_evsOf h hv th.1).1

theorem parse_saveLog_of_valid (cs pid : Nat) (proc : Option String) (idText : Nat → String) (h : List Call)
    (hv : Valid h) (ths : List (Nat × ThreadLog)) (hp : ths.Perm (runR cs h)) :
    ∃ objs, parseArray (saveLog pid proc idText ths) = some objs ∧
      ∀ i, threadObjs objs i = ((ths[i]?).map fun th => (scan pid i [] (evsOf h th.1)).map JO.flat).getD [] := by
  have hall : ∀ th ∈ ths, th.2.all = evsOf h th.1 := fun th hth => runR_all cs h hv th (hp.mem_iff.mp hth)
  obtain ⟨objs, hparse, hsel⟩ := parse_saveLog pid proc idText ths (endsMatched_of_valid hv hall)
  refine ⟨objs, hparse, fun i => ?_⟩
  rw [hsel]
  cases hi : ths[i]? with
  | none => rfl
  | some th => rw [Option.map_some, Option.map_some, hall th (List.mem_of_getElem? hi)]

theorem recordedOf_cons (c : Call) (earlier : List Call) (t : Nat) :
    recordedOf (c :: earlier) t = recordedOf earlier t ++ (if c.tid = t then c.op.canon?.toList else []) := by
  unfold recordedOf
  rw [List.reverse_cons, List.filter_append, List.filterMap_append]
  by_cases hc : c.tid = t <;> simp [hc]
  cases hcan : c.op.canon? <;> simp [hcan]

theorem canon_evsOf (h : List Call) (t : Nat) : (evsOf h t).filterMap TEvent.canon = recordedOf h t := by
  rw [evsOf_eq, List.filterMap_filterMap]
  exact congrArg (List.filterMap · _) (funext fun c => by cases c.op <;> rfl)

theorem evsOf_ok (h : List Call) (t : Nat) : ∀ e ∈ evsOf h t, EvOK e := by
  intro e he
  rw [evsOf_eq, List.mem_filterMap] at he
  obtain ⟨c, _, hc⟩ := he
  cases hop : c.op <;> simp [hop, Op.event?] at hc <;> subst hc <;> simp [EvOK]

end RkVerif.C20
