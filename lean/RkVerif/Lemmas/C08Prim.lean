/-
State primitives of Model/C08.lean: what each of them (`setCell`, `setObj`, `setThr`, `pushReg`,
`popReg`, `pushCont`, `incCount`, `release`, `addManual`, `subManual`) does to the observations
`cell`, `getThr`, `countOf`, `aliveOf`, `destroyedOf`, `manualOf`, `addrO` and to the three components
`hrefs + rrefs + manualOf` of `refsTo`.  The four primitives that change an object are one operation,
`modObj`, applied to different record updates.
-/
import RkVerif.Model.C08

namespace RkVerif.C08

theorem sumBy_eq_sum {α : Type} (f : α → Nat) (l : List α) : sumBy f l = (l.map f).sum := by
  induction l with
  | nil => rfl
  | cons a l ih => simp [sumBy, ih]

theorem sumBy_append {α : Type} (f : α → Nat) (l₁ l₂ : List α) :
    sumBy f (l₁ ++ l₂) = sumBy f l₁ + sumBy f l₂ := by
  simp [sumBy_eq_sum]

theorem sumBy_eq_zero_iff {α : Type} (f : α → Nat) (l : List α) : sumBy f l = 0 ↔ ∀ a ∈ l, f a = 0 := by
  simp [sumBy_eq_sum, List.sum_eq_zero_iff_forall_eq_nat]

/-- Read from hypothesis to conclusion, against the name: a sum that is 0 has only summands 0. -/
theorem sumBy_zero_of_forall {α : Type} (f : α → Nat) (l : List α) (h : sumBy f l = 0) :
    ∀ a ∈ l, f a = 0 :=
  (sumBy_eq_zero_iff f l).mp h

theorem sumBy_pos_of_mem {α : Type} (f : α → Nat) (l : List α) (a : α) (h : a ∈ l) (hp : 0 < f a) :
    0 < sumBy f l :=
  Nat.pos_of_ne_zero fun h0 => by have := sumBy_zero_of_forall f l h0 a h; omega

theorem sumBy_set {α : Type} (f : α → Nat) (l : List α) (i : Nat) (a b : α) (h : l[i]? = some b) :
    sumBy f (l.set i a) + f b = sumBy f l + f a := by
  induction l generalizing i with
  | nil => simp at h
  | cons c l ih =>
    cases i with
    | zero => cases Option.some.inj h; simp only [List.set_cons_zero, sumBy]; omega
    | succ i => have := ih i h; simp only [List.set_cons_succ, sumBy]; omega

theorem sumBy_set_none {α : Type} (f : α → Nat) (l : List α) (i : Nat) (a : α) (h : l[i]? = none) :
    sumBy f (l.set i a) = sumBy f l := by
  rw [List.set_eq_of_length_le (by simpa using h)]

theorem getD_set {α : Type} (l : List α) (i j : Nat) (a d : α) :
    (l.set i a)[j]?.getD d = if i = j ∧ i < l.length then a else l[j]?.getD d := by
  rw [List.getElem?_set]
  split <;> simp_all <;> split <;> simp_all

def hrefs (s : State) (o : Nat) : Nat := sumBy (ccnt o) s.cells
def trefs (o : Nat) (th : Thread) : Nat := sumBy (rcnt o) th.regs
def rrefs (s : State) (o : Nat) : Nat := sumBy (trefs o) s.thr

theorem refsTo_eq (s : State) (o : Nat) : refsTo s o = hrefs s o + rrefs s o + manualOf s o := rfl

/-- `addrOf s (some o)` of the model, which `eqH` compares, is `addrO s o` by `rfl`; `AddrInv` is stated
    with `addrO`. -/
def addrO (s : State) (o : Nat) : Nat := (s.objs[o]?.map (·.addr)).getD 0

/-! Every observation reads one component of the state: `cell`, `hrefs` read `cells`; `getThr`, `topReg`,
`rrefs` read `thr`; `countOf`, `aliveOf`, `destroyedOf`, `manualOf`, `addrO` read `objs`.  A primitive
that does not write a component leaves the observations of it alone; the one-line lemmas of this file
say so for each pair. -/

@[simp] theorem setCell_objs (s : State) (x : Nat) (h : Option H) : (setCell s x h).objs = s.objs := rfl
@[simp] theorem setCell_thr (s : State) (x : Nat) (h : Option H) : (setCell s x h).thr = s.thr := rfl
@[simp] theorem countOf_setCell (s : State) (x h o) : countOf (setCell s x h) o = countOf s o := rfl
@[simp] theorem aliveOf_setCell (s : State) (x h o) : aliveOf (setCell s x h) o = aliveOf s o := rfl
@[simp] theorem destroyedOf_setCell (s : State) (x h o) : destroyedOf (setCell s x h) o = destroyedOf s o := rfl
@[simp] theorem manualOf_setCell (s : State) (x h o) : manualOf (setCell s x h) o = manualOf s o := rfl
@[simp] theorem addrO_setCell (s : State) (x h o) : addrO (setCell s x h) o = addrO s o := rfl
@[simp] theorem rrefs_setCell (s : State) (x h o) : rrefs (setCell s x h) o = rrefs s o := rfl
@[simp] theorem getThr_setCell (s : State) (x h t) : getThr (setCell s x h) t = getThr s t := rfl
@[simp] theorem topReg_setCell (s : State) (x h t) : topReg (setCell s x h) t = topReg s t := rfl

theorem cell_setCell (s : State) (x y : Nat) (h : Option H) :
    cell (setCell s x h) y = if x = y ∧ x < s.cells.length then h else cell s y :=
  getD_set ..

theorem cells_get_of_cell {s : State} {x : Nat} {h : H} (hc : cell s x = some h) :
    s.cells[x]? = some (some h) := by
  unfold cell at hc
  cases hx : s.cells[x]? <;> simp_all

theorem lt_of_cell {s : State} {x : Nat} {h : H} (hc : cell s x = some h) : x < s.cells.length :=
  (List.getElem?_eq_some_iff.mp (cells_get_of_cell hc)).1

theorem refsTo_set (s : State) (x : Nat) (h c : Option H) (o : Nat) (hc : s.cells[x]? = some c) :
    refsTo (setCell s x h) o + ccnt o c = refsTo s o + ccnt o h := by
  have : hrefs (setCell s x h) o + ccnt o c = hrefs s o + ccnt o h := sumBy_set _ _ _ _ _ hc
  simp only [refsTo_eq, rrefs_setCell, manualOf_setCell]; omega

theorem refsTo_setCell {s : State} {x : Nat} {hx : H} (h : Option H) (o : Nat) (hc : cell s x = some hx) :
    refsTo (setCell s x h) o + ccnt o (some hx) = refsTo s o + ccnt o h :=
  refsTo_set s x h _ o (cells_get_of_cell hc)

theorem refsTo_ctor {s : State} {x : Nat} (h : H) (o : Nat) (hc : s.cells[x]? = some none) :
    refsTo (setCell s x (some h)) o = refsTo s o + ccnt o (some h) :=
  refsTo_set s x _ _ o hc

theorem ccnt_ofPtr (o : Nat) (r : Option Nat) : ccnt o (some (H.ofPtr r)) = rcnt o r := by
  cases r <;> rfl

@[simp] theorem setThr_objs (s : State) (t th) : (setThr s t th).objs = s.objs := rfl
@[simp] theorem setThr_cells (s : State) (t th) : (setThr s t th).cells = s.cells := rfl
@[simp] theorem countOf_setThr (s : State) (t th o) : countOf (setThr s t th) o = countOf s o := rfl
@[simp] theorem aliveOf_setThr (s : State) (t th o) : aliveOf (setThr s t th) o = aliveOf s o := rfl
@[simp] theorem destroyedOf_setThr (s : State) (t th o) : destroyedOf (setThr s t th) o = destroyedOf s o := rfl
@[simp] theorem manualOf_setThr (s : State) (t th o) : manualOf (setThr s t th) o = manualOf s o := rfl
@[simp] theorem addrO_setThr (s : State) (t th o) : addrO (setThr s t th) o = addrO s o := rfl
@[simp] theorem hrefs_setThr (s : State) (t th o) : hrefs (setThr s t th) o = hrefs s o := rfl
@[simp] theorem cell_setThr (s : State) (t th x) : cell (setThr s t th) x = cell s x := rfl
@[simp] theorem setThr_length (s : State) (t th) : (setThr s t th).thr.length = s.thr.length := by
  simp [setThr]

theorem getThr_of_lt {s : State} {t : Nat} (h : t < s.thr.length) : s.thr[t]? = some (getThr s t) := by
  simp [getThr, h]

theorem getThr_setThr (s : State) (t t' : Nat) (th : Thread) :
    getThr (setThr s t th) t' = if t = t' ∧ t < s.thr.length then th else getThr s t' :=
  getD_set ..

theorem getThr_congr {s1 s : State} (h : s1.thr = s.thr) (t : Nat) : getThr s1 t = getThr s t := by
  simp [getThr, h]

theorem getThr_pushReg (s : State) (t t' : Nat) (r : Option Nat) :
    getThr (pushReg s t r) t' =
      if t = t' ∧ t < s.thr.length then { getThr s t with regs := r :: (getThr s t).regs } else getThr s t' :=
  getThr_setThr s t t' _

theorem getThr_popReg (s : State) (t t' : Nat) :
    getThr (popReg s t) t' =
      if t = t' ∧ t < s.thr.length then { getThr s t with regs := (getThr s t).regs.tail } else getThr s t' :=
  getThr_setThr s t t' _

theorem rrefs_setThr (s : State) (t : Nat) (th : Thread) (o : Nat) (h : t < s.thr.length) :
    rrefs (setThr s t th) o + trefs o (getThr s t) = rrefs s o + trefs o th :=
  sumBy_set _ _ _ _ _ (getThr_of_lt h)

theorem refsTo_setThr_regs (s : State) (t : Nat) (th : Thread) (o : Nat)
    (hregs : th.regs = (getThr s t).regs) : refsTo (setThr s t th) o = refsTo s o := by
  have : rrefs (setThr s t th) o = rrefs s o := by
    rcases Nat.lt_or_ge t s.thr.length with h | h
    · have := rrefs_setThr s t th o h
      simp only [trefs, hregs] at this; omega
    · simp only [rrefs, setThr, List.set_eq_of_length_le h]
  simp only [refsTo_eq, this, hrefs_setThr, manualOf_setThr]

theorem refsTo_pushReg (s : State) (t : Nat) (r : Option Nat) (o : Nat) (h : t < s.thr.length) :
    refsTo (pushReg s t r) o = refsTo s o + rcnt o r := by
  have := rrefs_setThr s t { getThr s t with regs := r :: (getThr s t).regs } o h
  simp only [trefs, sumBy] at this
  simp only [refsTo_eq, pushReg, hrefs_setThr, manualOf_setThr]; omega

theorem refsTo_popReg (s : State) (t : Nat) (o : Nat) (h : t < s.thr.length) :
    refsTo (popReg s t) o + rcnt o (topReg s t) = refsTo s o := by
  have := rrefs_setThr s t { getThr s t with regs := (getThr s t).regs.tail } o h
  simp only [refsTo_eq, popReg, topReg, hrefs_setThr, manualOf_setThr]
  cases hr : (getThr s t).regs <;> simp [hr, trefs, sumBy, rcnt] at this ⊢ <;> omega

@[simp] theorem pushReg_objs (s : State) (t r) : (pushReg s t r).objs = s.objs := rfl
@[simp] theorem pushReg_cells (s : State) (t r) : (pushReg s t r).cells = s.cells := rfl
@[simp] theorem popReg_objs (s : State) (t) : (popReg s t).objs = s.objs := rfl
@[simp] theorem popReg_cells (s : State) (t) : (popReg s t).cells = s.cells := rfl
@[simp] theorem pushCont_objs (s : State) (t ms) : (pushCont s t ms).objs = s.objs := rfl
@[simp] theorem pushCont_cells (s : State) (t ms) : (pushCont s t ms).cells = s.cells := rfl
@[simp] theorem pushReg_length (s : State) (t r) : (pushReg s t r).thr.length = s.thr.length := by simp [pushReg]
@[simp] theorem popReg_length (s : State) (t) : (popReg s t).thr.length = s.thr.length := by simp [popReg]
@[simp] theorem pushCont_length (s : State) (t ms) : (pushCont s t ms).thr.length = s.thr.length := by simp [pushCont]

@[simp] theorem manualOf_pushReg (s : State) (t r o) : manualOf (pushReg s t r) o = manualOf s o := rfl
@[simp] theorem manualOf_popReg (s : State) (t o) : manualOf (popReg s t) o = manualOf s o := rfl
@[simp] theorem manualOf_pushCont (s : State) (t ms o) : manualOf (pushCont s t ms) o = manualOf s o := rfl
@[simp] theorem hrefs_pushReg (s : State) (t r o) : hrefs (pushReg s t r) o = hrefs s o := rfl
@[simp] theorem hrefs_popReg (s : State) (t o) : hrefs (popReg s t) o = hrefs s o := rfl
@[simp] theorem hrefs_pushCont (s : State) (t ms o) : hrefs (pushCont s t ms) o = hrefs s o := rfl
@[simp] theorem cell_pushReg (s : State) (t r x) : cell (pushReg s t r) x = cell s x := rfl
@[simp] theorem cell_popReg (s : State) (t x) : cell (popReg s t) x = cell s x := rfl
@[simp] theorem cell_pushCont (s : State) (t ms x) : cell (pushCont s t ms) x = cell s x := rfl

@[simp] theorem countOf_pushReg (s : State) (t r o) : countOf (pushReg s t r) o = countOf s o := rfl
@[simp] theorem countOf_popReg (s : State) (t o) : countOf (popReg s t) o = countOf s o := rfl
@[simp] theorem countOf_pushCont (s : State) (t ms o) : countOf (pushCont s t ms) o = countOf s o := rfl
@[simp] theorem aliveOf_pushReg (s : State) (t r o) : aliveOf (pushReg s t r) o = aliveOf s o := rfl
@[simp] theorem aliveOf_popReg (s : State) (t o) : aliveOf (popReg s t) o = aliveOf s o := rfl
@[simp] theorem aliveOf_pushCont (s : State) (t ms o) : aliveOf (pushCont s t ms) o = aliveOf s o := rfl
@[simp] theorem destroyedOf_pushReg (s : State) (t r o) : destroyedOf (pushReg s t r) o = destroyedOf s o := rfl
@[simp] theorem destroyedOf_popReg (s : State) (t o) : destroyedOf (popReg s t) o = destroyedOf s o := rfl
@[simp] theorem destroyedOf_pushCont (s : State) (t ms o) : destroyedOf (pushCont s t ms) o = destroyedOf s o := rfl
@[simp] theorem addrO_pushReg (s : State) (t r o) : addrO (pushReg s t r) o = addrO s o := rfl
@[simp] theorem addrO_popReg (s : State) (t o) : addrO (popReg s t) o = addrO s o := rfl
@[simp] theorem addrO_pushCont (s : State) (t ms o) : addrO (pushCont s t ms) o = addrO s o := rfl

@[simp] theorem setObj_cells (s : State) (i ob) : (setObj s i ob).cells = s.cells := rfl
@[simp] theorem setObj_thr (s : State) (i ob) : (setObj s i ob).thr = s.thr := rfl
@[simp] theorem hrefs_setObj (s : State) (i ob o) : hrefs (setObj s i ob) o = hrefs s o := rfl
@[simp] theorem rrefs_setObj (s : State) (i ob o) : rrefs (setObj s i ob) o = rrefs s o := rfl
@[simp] theorem cell_setObj (s : State) (i ob x) : cell (setObj s i ob) x = cell s x := rfl
@[simp] theorem getThr_setObj (s : State) (i ob t) : getThr (setObj s i ob) t = getThr s t := rfl

theorem objs_setObj (s : State) (i : Nat) (ob : Obj) (o : Nat) :
    (setObj s i ob).objs[o]? = if i = o ∧ i < s.objs.length then some ob else s.objs[o]? := by
  simp only [setObj, List.getElem?_set]
  split <;> simp_all

theorem countOf_of_none {s : State} {o : Nat} (h : s.objs[o]? = none) : countOf s o = 0 := by
  simp [countOf, h]
theorem aliveOf_of_none {s : State} {o : Nat} (h : s.objs[o]? = none) : aliveOf s o = false := by
  simp [aliveOf, h]
theorem destroyedOf_of_none {s : State} {o : Nat} (h : s.objs[o]? = none) : destroyedOf s o = 0 := by
  simp [destroyedOf, h]
theorem manualOf_of_none {s : State} {o : Nat} (h : s.objs[o]? = none) : manualOf s o = 0 := by
  simp [manualOf, h]

theorem countOf_ge {s : State} {o : Nat} (h : s.objs.length ≤ o) : countOf s o = 0 :=
  countOf_of_none (List.getElem?_eq_none h)
theorem aliveOf_ge {s : State} {o : Nat} (h : s.objs.length ≤ o) : aliveOf s o = false :=
  aliveOf_of_none (List.getElem?_eq_none h)
theorem destroyedOf_ge {s : State} {o : Nat} (h : s.objs.length ≤ o) : destroyedOf s o = 0 :=
  destroyedOf_of_none (List.getElem?_eq_none h)

/-- What `incCount`, `addManual`, `subManual` and `release` do to the objects, each with its own `f`. -/
def modObj (s : State) (k : Nat) (f : Obj → Obj) : State := { s with objs := s.objs.modify k f }

@[simp] theorem modObj_thr (s : State) (k f) : (modObj s k f).thr = s.thr := rfl
@[simp] theorem modObj_length (s : State) (k f) : (modObj s k f).objs.length = s.objs.length := by
  simp [modObj]

theorem objs_modObj (s : State) (k : Nat) (f : Obj → Obj) (o : Nat) :
    (modObj s k f).objs[o]? = if k = o then s.objs[o]?.map f else s.objs[o]? := by
  simp only [modObj, List.getElem?_modify]; split <;> simp

section
variable {α : Type} {g : Obj → α} {d : α} {s : State} {k : Nat} {f : Obj → Obj} {o : Nat}

/-- `countOf`, `aliveOf`, `destroyedOf`, `manualOf` and `addrO` read a field `g` of object `o`, with a
    default `d` where there is no such object. -/
theorem getD_map_modObj {φ : α → α} (hf : ∀ ob, g (f ob) = φ (g ob)) :
    ((modObj s k f).objs[o]?.map g).getD d =
      if k = o ∧ o < s.objs.length then φ ((s.objs[o]?.map g).getD d) else (s.objs[o]?.map g).getD d := by
  rw [objs_modObj]
  rcases Nat.lt_or_ge o s.objs.length with hl | hl
  · simp [hl]; split <;> simp [hf]
  · simp [Nat.not_lt.mpr hl]

theorem getD_map_modObj_same (hf : ∀ ob, g (f ob) = g ob) :
    ((modObj s k f).objs[o]?.map g).getD d = (s.objs[o]?.map g).getD d :=
  (getD_map_modObj (φ := id) hf).trans (ite_self _)
end

theorem modObj_eq (s : State) (k : Nat) (f : Obj → Obj) :
    modObj s k f = match s.objs[k]? with
      | none => s
      | some ob => setObj s k (f ob) := by
  cases h : s.objs[k]? with
  | none => simp [modObj, List.modify_eq_self (List.getElem?_eq_none_iff.mp h)]
  | some ob => simp [modObj, setObj, List.modify_eq_set, h]

theorem incCount_eq (s : State) (k : Nat) :
    incCount s k = modObj s k fun ob => { ob with count := ob.count + 1 } :=
  (modObj_eq ..).symm

theorem addManual_eq (s : State) (k : Nat) :
    addManual s k = modObj s k fun ob => { ob with manual := ob.manual + 1 } :=
  (modObj_eq ..).symm

theorem subManual_eq (s : State) (k : Nat) :
    subManual s k = modObj s k fun ob => { ob with manual := ob.manual - 1 } :=
  (modObj_eq ..).symm

/-- what `refDec()` does to the object -/
def Obj.dec (ob : Obj) : Obj :=
  { ob with count := ob.count - 1, alive := ob.alive && decide (ob.count ≠ 1),
            destroyed := ob.destroyed + if ob.count = 1 then 1 else 0 }

def dying (s : State) (v : Nat) : Bool :=
  match s.objs[v]? with
  | some ob => ob.count - 1 == 0
  | none => false

theorem release_eq (s : State) (t k : Nat) :
    release s t k =
      if dying s k = true then pushCont (modObj s k Obj.dec) t [.dtorMem k] else modObj s k Obj.dec := by
  rw [modObj_eq]; unfold release dying
  cases s.objs[k]? with
  | none => simp
  | some ob =>
    have : ob.count - 1 = 0 ↔ ob.count = 1 := by omega
    simp only [Obj.dec, beq_iff_eq, this]; split <;> simp [*]

theorem release_objs (s : State) (t k : Nat) : (release s t k).objs = (modObj s k Obj.dec).objs := by
  rw [release_eq]; split <;> rfl

section incCount
variable (s : State) (k o : Nat)

@[simp] theorem incCount_cells : (incCount s k).cells = s.cells := incCount_eq s k ▸ rfl
@[simp] theorem incCount_thr : (incCount s k).thr = s.thr := incCount_eq s k ▸ rfl
@[simp] theorem incCount_length : (incCount s k).objs.length = s.objs.length := incCount_eq s k ▸ modObj_length ..

theorem countOf_incCount :
    countOf (incCount s k) o = if k = o ∧ o < s.objs.length then countOf s o + 1 else countOf s o :=
  incCount_eq s k ▸ getD_map_modObj (φ := (· + 1)) fun _ => rfl

@[simp] theorem aliveOf_incCount : aliveOf (incCount s k) o = aliveOf s o :=
  incCount_eq s k ▸ getD_map_modObj_same fun _ => rfl
@[simp] theorem destroyedOf_incCount : destroyedOf (incCount s k) o = destroyedOf s o :=
  incCount_eq s k ▸ getD_map_modObj_same fun _ => rfl
@[simp] theorem manualOf_incCount : manualOf (incCount s k) o = manualOf s o :=
  incCount_eq s k ▸ getD_map_modObj_same fun _ => rfl
@[simp] theorem addrO_incCount : addrO (incCount s k) o = addrO s o :=
  incCount_eq s k ▸ getD_map_modObj_same fun _ => rfl
@[simp] theorem getThr_incCount (t : Nat) : getThr (incCount s k) t = getThr s t :=
  getThr_congr (by simp) t
end incCount

section manual
variable (s : State) (k o : Nat)

@[simp] theorem addManual_cells : (addManual s k).cells = s.cells := addManual_eq s k ▸ rfl
@[simp] theorem addManual_thr : (addManual s k).thr = s.thr := addManual_eq s k ▸ rfl
@[simp] theorem addManual_length : (addManual s k).objs.length = s.objs.length := addManual_eq s k ▸ modObj_length ..
@[simp] theorem subManual_cells : (subManual s k).cells = s.cells := subManual_eq s k ▸ rfl
@[simp] theorem subManual_thr : (subManual s k).thr = s.thr := subManual_eq s k ▸ rfl
@[simp] theorem subManual_length : (subManual s k).objs.length = s.objs.length := subManual_eq s k ▸ modObj_length ..

theorem manualOf_addManual :
    manualOf (addManual s k) o = if k = o ∧ o < s.objs.length then manualOf s o + 1 else manualOf s o :=
  addManual_eq s k ▸ getD_map_modObj (φ := (· + 1)) fun _ => rfl

theorem manualOf_subManual :
    manualOf (subManual s k) o = if k = o ∧ o < s.objs.length then manualOf s o - 1 else manualOf s o :=
  subManual_eq s k ▸ getD_map_modObj (φ := (· - 1)) fun _ => rfl

@[simp] theorem countOf_addManual : countOf (addManual s k) o = countOf s o :=
  addManual_eq s k ▸ getD_map_modObj_same fun _ => rfl
@[simp] theorem aliveOf_addManual : aliveOf (addManual s k) o = aliveOf s o :=
  addManual_eq s k ▸ getD_map_modObj_same fun _ => rfl
@[simp] theorem destroyedOf_addManual : destroyedOf (addManual s k) o = destroyedOf s o :=
  addManual_eq s k ▸ getD_map_modObj_same fun _ => rfl
@[simp] theorem addrO_addManual : addrO (addManual s k) o = addrO s o :=
  addManual_eq s k ▸ getD_map_modObj_same fun _ => rfl
@[simp] theorem countOf_subManual : countOf (subManual s k) o = countOf s o :=
  subManual_eq s k ▸ getD_map_modObj_same fun _ => rfl
@[simp] theorem aliveOf_subManual : aliveOf (subManual s k) o = aliveOf s o :=
  subManual_eq s k ▸ getD_map_modObj_same fun _ => rfl
@[simp] theorem destroyedOf_subManual : destroyedOf (subManual s k) o = destroyedOf s o :=
  subManual_eq s k ▸ getD_map_modObj_same fun _ => rfl
@[simp] theorem addrO_subManual : addrO (subManual s k) o = addrO s o :=
  subManual_eq s k ▸ getD_map_modObj_same fun _ => rfl
@[simp] theorem getThr_addManual (t : Nat) : getThr (addManual s k) t = getThr s t :=
  getThr_congr (by simp) t
@[simp] theorem getThr_subManual (t : Nat) : getThr (subManual s k) t = getThr s t :=
  getThr_congr (by simp) t

theorem refsTo_addManual (h : k < s.objs.length) :
    refsTo (addManual s k) o = refsTo s o + if k = o then 1 else 0 := by
  simp only [refsTo, addManual_cells, addManual_thr, manualOf_addManual]
  by_cases hko : k = o <;> simp [hko]
  subst hko; simp [h]; omega

theorem refsTo_subManual (h : 0 < manualOf s k) :
    refsTo (subManual s k) o + (if k = o then 1 else 0) = refsTo s o := by
  have hl : k < s.objs.length := Nat.lt_of_not_le fun h' => by
    rw [manualOf_of_none (List.getElem?_eq_none h')] at h; omega
  simp only [refsTo, subManual_cells, subManual_thr, manualOf_subManual]
  by_cases hko : k = o <;> simp [hko]
  subst hko; simp [hl]; omega
end manual

section release
variable (s : State) (t k o : Nat)

@[simp] theorem release_cells : (release s t k).cells = s.cells := by
  rw [release_eq]; split <;> rfl
@[simp] theorem release_length : (release s t k).objs.length = s.objs.length := by
  rw [release_objs, modObj_length]
@[simp] theorem release_thr_length : (release s t k).thr.length = s.thr.length := by
  rw [release_eq]; split <;> simp

theorem countOf_release :
    countOf (release s t k) o = if k = o ∧ o < s.objs.length then countOf s o - 1 else countOf s o := by
  simp only [countOf, release_objs]; exact getD_map_modObj (φ := (· - 1)) fun _ => rfl

theorem aliveOf_release :
    aliveOf (release s t k) o = if k = o ∧ countOf s o = 1 then false else aliveOf s o := by
  by_cases hko : k = o <;> cases h : s.objs[o]? <;>
    simp [aliveOf, countOf, release_objs, objs_modObj, hko, h, Obj.dec, Bool.and_comm]

theorem destroyedOf_release :
    destroyedOf (release s t k) o = destroyedOf s o + (if k = o ∧ countOf s o = 1 then 1 else 0) := by
  by_cases hko : k = o <;> cases h : s.objs[o]? <;>
    simp [destroyedOf, countOf, release_objs, objs_modObj, hko, h, Obj.dec]

@[simp] theorem manualOf_release : manualOf (release s t k) o = manualOf s o := by
  simp only [manualOf, release_objs]; exact getD_map_modObj_same fun _ => rfl
@[simp] theorem addrO_release : addrO (release s t k) o = addrO s o := by
  simp only [addrO, release_objs]; exact getD_map_modObj_same fun _ => rfl
end release

theorem release_incCount_objs {s S : State} (t v : Nat) (h : 0 < countOf s v)
    (hS : S.objs = (incCount s v).objs) : (release S t v).objs = s.objs := by
  simp only [release_objs, modObj, hS, incCount_eq, List.modify_modify_eq]
  refine List.ext_getElem? fun o => ?_
  rw [List.getElem?_modify]
  by_cases hvo : v = o
  · subst hvo
    cases hob : s.objs[v]? with
    | none => rfl
    | some ob =>
      have : ¬ ob.count + 1 = 1 := by simp [countOf, hob] at h; omega
      simp [Obj.dec, this]
  · cases s.objs[o]? <;> simp [hvo]

theorem getThr_release (s : State) (t t' v : Nat) :
    getThr (release s t v) t' =
      if t = t' ∧ t < s.thr.length ∧ dying s v = true then
        { getThr s t with cont := .dtorMem v :: (getThr s t).cont }
      else getThr s t' := by
  rw [release_eq]; split
  · simp only [*, and_true]; exact getThr_setThr (modObj s v Obj.dec) t t' _
  · simp only [*, Bool.false_eq_true, and_false, if_false]; rfl

theorem regs_release (s : State) (t t' v : Nat) : (getThr (release s t v) t').regs = (getThr s t').regs := by
  rw [getThr_release]; split
  · rename_i h; rw [← h.1]
  · rfl

theorem cont_release (s : State) (t t' v : Nat) :
    (getThr (release s t v) t').cont =
      (if t = t' ∧ t < s.thr.length ∧ dying s v = true then [.dtorMem v] else []) ++ (getThr s t').cont := by
  rw [getThr_release]; split
  · rename_i h; rw [← h.1]; rfl
  · rfl

theorem refsTo_incCount (s : State) (k o : Nat) : refsTo (incCount s k) o = refsTo s o := by
  simp [refsTo]

theorem refsTo_pushCont (s : State) (t : Nat) (ms : List MStep) (o : Nat) :
    refsTo (pushCont s t ms) o = refsTo s o :=
  refsTo_setThr_regs _ _ _ _ rfl

theorem refsTo_release (s : State) (t k o : Nat) : refsTo (release s t k) o = refsTo s o := by
  have h : refsTo (modObj s k Obj.dec) o = refsTo s o :=
    congrArg (_ + ·) (getD_map_modObj_same (g := (·.manual)) (f := Obj.dec) fun _ => rfl)
  rw [release_eq]; split
  · rw [refsTo_pushCont, h]
  · exact h

@[simp] theorem incOpt_cells (s : State) (k : Option Nat) : (incOpt s k).cells = s.cells := by
  cases k <;> simp [incOpt]
@[simp] theorem releaseH_cells (s : State) (t : Nat) (h : H) : (releaseH s t h).cells = s.cells := by
  cases h <;> simp [releaseH]

theorem getThr_releaseH (s : State) (t t' : Nat) (hx : H) (h : t < s.thr.length) :
    getThr (releaseH s t hx) t' =
      match hx with
      | .own v => if t = t' ∧ dying s v = true then { getThr s t with cont := .dtorMem v :: (getThr s t).cont }
                  else getThr s t'
      | _ => getThr s t' := by
  cases hx <;> simp [releaseH, getThr_release, h]

end RkVerif.C08
