/- C16 — the parser monad pointwise (`bind_apply` …), the scanning loop `scanWhile` that three of
   the model's loops are instances of, and the safety lemmas: every helper of the XML.cpp model,
   started with the cursor inside the buffer (`s ≤ b.size`, i.e. at or before the terminator) and
   with fuel that covers the rest of the buffer, returns with the cursor still inside the buffer
   or fails with `runtimeError` — never `outOfBounds`, never `outOfFuel`.  The cursor stays inside
   because every `++s` follows a read of a non-zero byte at `s`, and the only zero is the
   terminator; the fuel suffices because every iteration moves on.

   The fuel hypothesis is always spelt `b.size + k ≤ f + s` (`b.size ≤ f + s` for `k = 0`), for a
   helper with fuel `f` started at cursor `s`: `k = 0` for a helper that has moved on by a byte
   before its first loop starts; a loop needs one more than its body does at the same cursor (one
   unit for the iteration that stops it), so `k = 1` for a plain loop and for a loop over `k = 0`
   helpers, `k = 2` for `nodeLoop` and `topLoop`, whose bodies start with a plain loop.  It only
   gets easier further on in the buffer, so a caller passes it on with `by omega`. -/
import RkVerif.Model.C16
namespace RkVerif.C16

variable {α β : Type}

@[simp] theorem bind_apply (m : XmlM α) (f : α → XmlM β) (b : Array UInt8) (s : Nat) :
    (m >>= f) b s = match m b s with
      | .ok (a, s') => f a b s'
      | .error e => .error e := rfl

@[simp] theorem pure_apply (a : α) (b : Array UInt8) (s : Nat) : (pure a : XmlM α) b s = .ok (a, s) := rfl
@[simp] theorem fail_apply (e : Err) (b : Array UInt8) (s : Nat) : (fail e : XmlM α) b s = .error e := rfl
@[simp] theorem adv_apply (b : Array UInt8) (s : Nat) : adv b s = .ok ((), s + 1) := rfl
@[simp] theorem pos_apply (b : Array UInt8) (s : Nat) : pos b s = .ok (s, s) := rfl

variable {b : Array UInt8} {s f : Nat} {Q : β → Nat → Prop}

theorem ne_of_class {p : UInt8 → Bool} {c x : UInt8} (hc : p c = true) (hx : p x = false) : c ≠ x :=
  fun e => by rw [e, hx] at hc; cases hc

/-- `==` and `!=` on bytes, stated for `UInt8`: the general lemmas make every use search for
    `LawfulBEq UInt8` again, and that search is long -/
theorem beq_iff {c w : UInt8} : (c == w) = true ↔ c = w := beq_iff_eq
theorem bne_iff {c w : UInt8} : (c != w) = true ↔ c ≠ w := bne_iff_ne

theorem ne_of_beq {c w x : UInt8} (hc : (c == w) = true) (hx : w ≠ x) : c ≠ x :=
  beq_iff.1 hc ▸ hx

/-- `while (test(*s)) ++s;` — the common shape of `skipWhites`, `identLoop` and `contentLoop` -/
def scanWhile (test : UInt8 → Bool) : Nat → XmlM Unit
  | 0 => fail .outOfFuel
  | f + 1 => do
    let c ← peek
    if test c then do adv; scanWhile test f else pure ()

theorem skipWhites_eq : ∀ f, skipWhites f = scanWhile isWhite f
  | 0 => rfl
  | f + 1 => by rw [skipWhites, scanWhile, skipWhites_eq f]

theorem identLoop_eq : ∀ f, identLoop f = scanWhile isIdChar f
  | 0 => rfl
  | f + 1 => by rw [identLoop, scanWhile, identLoop_eq f]

theorem contentLoop_eq : ∀ f, contentLoop f = scanWhile (fun c => c != cLT && c != 0) f
  | 0 => rfl
  | f + 1 => by rw [contentLoop, scanWhile, contentLoop_eq f]

theorem headerPropLoop_eq (ps : Nat → XmlM Bytes) : ∀ f acc,
    headerPropLoop ps f = (do let _ ← propLoop ps f acc; pure ())
  | 0, _ => rfl
  | f + 1, acc => by
    funext b s
    simp only [headerPropLoop, propLoop, bind_apply]
    rcases parsePropWith ps f b s with _ | ⟨_ | ⟨k, v⟩, s1⟩
    · rfl
    · rfl
    · simp only [bind_apply, headerPropLoop_eq ps f (setProp acc k v)]
      rcases skipWhites f b s1 with _ | ⟨_, s2⟩ <;> rfl

def Post (b : Array UInt8) (r : Except Err (α × Nat)) (Q : α → Nat → Prop) : Prop :=
  match r with
  | .ok (a, s') => s' ≤ b.size ∧ Q a s'
  | .error e => e = .runtimeError

theorem Post.bind {m : XmlM α} {g : α → XmlM β} {Q1 : α → Nat → Prop}
    (h1 : Post b (m b s) Q1) (h2 : ∀ a s', s' ≤ b.size → Q1 a s' → Post b (g a b s') Q) :
    Post b ((m >>= g) b s) Q := by
  rw [bind_apply]
  unfold Post at h1
  split at h1
  · next a s' heq => exact h2 a s' h1.1 h1.2
  · next e heq => simpa [Post] using h1

theorem Post.mono {r : Except Err (β × Nat)} {Q1 : β → Nat → Prop}
    (h : Post b r Q1) (hq : ∀ a s', s' ≤ b.size → Q1 a s' → Q a s') : Post b r Q := by
  unfold Post at *
  split <;> simp_all

theorem Post.fwd {r : Except Err (β × Nat)} {s1 : Nat}
    (h : Post b r (fun _ s' => s1 ≤ s')) (hs : s ≤ s1) : Post b r (fun _ s' => s ≤ s') :=
  h.mono fun _ _ _ h' => Nat.le_trans hs h'

theorem Post.pure {a : β} (h1 : s ≤ b.size) (h2 : Q a s) : Post b ((pure a : XmlM β) b s) Q :=
  ⟨h1, h2⟩

theorem Post.fail : Post b ((fail .runtimeError : XmlM β) b s) Q := rfl

theorem Post.ite {c : Prop} [Decidable c] {m1 m2 : XmlM β} (h1 : c → Post b (m1 b s) Q)
    (h2 : ¬c → Post b (m2 b s) Q) : Post b ((if c then m1 else m2) b s) Q := by
  split
  · exact h1 ‹_›
  · exact h2 ‹_›

theorem Post.pos {g : Nat → XmlM β} (h : Post b (g s b s) Q) : Post b ((pos >>= g) b s) Q := h

theorem Post.adv {g : Unit → XmlM β} (h : Post b (g () b (s + 1)) Q) : Post b ((adv >>= g) b s) Q := h

theorem rd_le {i : Nat} (h : i ≤ b.size) : ∃ c, rd b i = .ok c ∧ (c ≠ 0 → i < b.size) := by
  unfold rd
  by_cases h1 : i < b.size
  · simp [h1]
  · have : i = b.size := by omega
    simp [this]

theorem Post.read {k : Nat} {g : UInt8 → XmlM β} (h : s + k ≤ b.size)
    (hg : ∀ c, rd b (s + k) = .ok c → (c ≠ 0 → s + k < b.size) → Post b (g c b s) Q) :
    Post b ((peekAt k >>= g) b s) Q := by
  obtain ⟨c, hc, hnz⟩ := rd_le h
  simpa only [bind_apply, peekAt, hc] using hg c hc hnz

theorem consume_post (w : UInt8) (hw : w ≠ 0) (h : s ≤ b.size) :
    Post b (consume w b s) (fun _ s' => s' = s + 1 ∧ rd b s = .ok w) := by
  refine Post.bind (Q1 := fun _ s' => s' = s ∧ rd b s = .ok w ∧ s < b.size)
    (Post.read h fun c hc hnz => Post.ite (fun _ => Post.fail) fun hcw => ?_) ?_
  · rw [bne_iff, Decidable.not_not] at hcw
    subst hcw
    exact Post.pure h ⟨rfl, hc, hnz hw⟩
  · rintro _ _ _ ⟨rfl, hc, hlt⟩
    exact ⟨hlt, rfl, hc⟩

theorem consumeWord_post (ws : List UInt8) (hws : ∀ w ∈ ws, w ≠ 0) :
    ∀ {s}, s ≤ b.size → Post b (consumeWord ws b s) (fun _ s' => s' = s + ws.length) := by
  induction ws with
  | nil => exact fun h => Post.pure h rfl
  | cons w ws ih =>
    intro s h
    refine Post.bind (consume_post w (hws w (List.mem_cons_self ..)) h) ?_
    rintro _ _ hs' ⟨rfl, -⟩
    exact (ih (fun w hw => hws w (List.mem_cons_of_mem _ hw)) hs').mono fun _ _ _ hq => by
      rw [hq, List.length_cons]; omega

theorem scanWhile_post {test : UInt8 → Bool} (h0 : test 0 = false) (f : Nat) :
    ∀ {s}, s ≤ b.size → b.size + 1 ≤ f + s →
      Post b (scanWhile test f b s) (fun _ s' => s ≤ s' ∧ ∃ c, rd b s' = .ok c ∧ test c = false) := by
  induction f with
  | zero => intro s h1 h2; omega
  | succ f ih =>
    intro s h1 h2
    refine Post.read h1 fun c hc hnz => Post.ite (fun hw => ?_) fun hw => ?_
    · have := hnz (ne_of_class hw h0)
      exact (ih (s := s + 1) (by omega) (by omega)).mono fun _ _ _ h => ⟨by omega, h.2⟩
    · exact Post.pure h1 ⟨Nat.le_refl _, c, hc, Bool.eq_false_iff.2 hw⟩

theorem skipWhites_post (h1 : s ≤ b.size) (h2 : b.size + 1 ≤ f + s) :
    Post b (skipWhites f b s) (fun _ s' => s ≤ s') := by
  rw [skipWhites_eq]
  exact (scanWhile_post rfl f h1 h2).mono fun _ _ _ h => h.1

theorem commentLoop_post (f : Nat) : ∀ {s}, s ≤ b.size → b.size + 1 ≤ f + s →
    Post b (commentLoop f b s) (fun _ s' => s ≤ s') := by
  induction f with
  | zero => intro s h1 h2; omega
  | succ f ih =>
    intro s h1 h2
    refine Post.read (k := 0) h1 fun c0 _ hnz0 => ?_
    have stop : Post b ((pure () : XmlM Unit) b s) (fun _ s' => s ≤ s') := Post.pure h1 (Nat.le_refl _)
    -- every `else` branch is `++s` on a byte that is not the terminator
    have step : ¬(c0 == 0) = true →
        Post b ((adv >>= fun _ => commentLoop f) b s) (fun _ s' => s ≤ s') := fun hne =>
      have := hnz0 (mt beq_iff.2 hne)
      (ih (s := s + 1) (by omega) (by omega)).fwd (by omega)
    refine Post.ite (fun _ => stop) fun h0 => Post.ite (fun _ => ?_) fun _ => step h0
    refine Post.read (k := 1) (hnz0 (mt beq_iff.2 h0)) fun c1 _ hnz1 => ?_
    refine Post.ite (fun h1' => ?_) fun _ => step h0
    refine Post.read (k := 2) (hnz1 (ne_of_beq h1' (by decide))) fun c2 _ _ => ?_
    exact Post.ite (fun _ => stop) fun _ => step h0

theorem consumeComment_post (h1 : s ≤ b.size) (h2 : b.size ≤ f + s) :
    Post b (consumeComment f b s) (fun _ s' => s + 5 ≤ s') := by
  refine Post.bind (consume_post cLT (by decide) h1) ?_
  rintro _ _ hs1 ⟨rfl, -⟩
  refine Post.bind (consume_post cBang (by decide) hs1) ?_
  rintro _ _ hs2 ⟨rfl, -⟩
  refine Post.bind (commentLoop_post f hs2 (by omega)) ?_
  intro _ s3 hs3 h3
  refine Post.bind (consume_post cDash (by decide) hs3) ?_
  rintro _ _ hs4 ⟨rfl, -⟩
  refine Post.bind (consume_post cDash (by decide) hs4) ?_
  rintro _ _ hs5 ⟨rfl, -⟩
  exact (consume_post cGT (by decide) hs5).mono fun _ _ _ h => by omega

theorem makeString_post {bg en : Nat} (h : s ≤ b.size) :
    Post b (makeString bg en b s) (fun _ s' => s = s') := by
  unfold makeString
  split <;> simp [Post, h]

theorem stringLoop_post (q : UInt8) (f : Nat) : ∀ {s}, s ≤ b.size → b.size + 1 ≤ f + s →
    Post b (stringLoop q f b s) (fun _ s' => s ≤ s') := by
  induction f with
  | zero => intro s h1 h2; omega
  | succ f ih =>
    intro s h1 h2
    refine Post.read h1 fun c _ hnz => Post.ite (fun _ => ?_) fun _ => Post.pure h1 (Nat.le_refl _)
    refine Post.bind (Q1 := fun _ s' => s ≤ s' ∧ s' ≤ s + 1) (Post.ite (fun hb => ?_) fun _ => ?_) ?_
    · have := hnz (ne_of_beq hb (by decide))
      exact ⟨by omega, by omega, Nat.le_refl _⟩
    · exact Post.pure h1 (by omega)
    rintro _ s1 hs1 ⟨hlo, hhi⟩
    refine Post.read hs1 fun c' _ hnz' => Post.ite (fun _ => Post.fail) fun hz => ?_
    have := hnz' (mt beq_iff.2 hz)
    exact (ih (s := s1 + 1) (by omega) (by omega)).fwd (by omega)

theorem parseQuoted_post (q : UInt8) (hq : q ≠ 0) (h1 : s ≤ b.size) (h2 : b.size ≤ f + s) :
    Post b (parseQuoted stringLoop q f b s) (fun _ s' => s ≤ s') := by
  refine Post.bind (consume_post q hq h1) ?_
  rintro _ _ hs1 ⟨rfl, -⟩
  refine Post.pos (Post.bind (stringLoop_post q f hs1 (by omega)) ?_)
  intro _ s2 hs2 h12
  refine Post.pos (Post.bind (makeString_post hs2) ?_)
  rintro v _ hs3 rfl
  refine Post.bind (consume_post q hq hs3) ?_
  rintro _ _ hs4 ⟨rfl, -⟩
  exact Post.pure hs4 (by omega)

def PsOK (b : Array UInt8) (ps : Nat → XmlM Bytes) : Prop :=
  ∀ f s, s ≤ b.size → b.size ≤ f + s → Post b (ps f b s) (fun _ s' => s ≤ s')

theorem parseString_ok (b : Array UInt8) : PsOK b parseString := by
  intro f s h1 h2
  refine Post.read h1 fun c _ _ => Post.ite (fun _ => ?_) fun _ => ?_
  · exact parseQuoted_post cDQ (by decide) h1 h2
  · exact parseQuoted_post cSQ (by decide) h1 h2

theorem parseIdentifier_post (h1 : s ≤ b.size) (h2 : b.size ≤ f + s) :
    Post b (parseIdentifier f b s) (fun r s' => s ≤ s' ∧ (r.isSome → s + 1 ≤ s')) := by
  refine Post.read h1 fun c _ hnz => Post.ite (fun hs => ?_) fun _ => Post.pure h1 (by simp)
  have := hnz (ne_of_class hs rfl)
  rw [identLoop_eq]
  refine Post.pos (Post.adv (Post.bind (scanWhile_post rfl f (s := s + 1) (by omega) (by omega)) ?_))
  intro _ s2 hs2 h12
  refine Post.pos (Post.bind (makeString_post hs2) ?_)
  rintro v _ hs3 rfl
  exact Post.pure hs3 ⟨by omega, fun _ => h12.1⟩

theorem parsePropWith_post {ps : Nat → XmlM Bytes} (hps : PsOK b ps) (h1 : s ≤ b.size)
    (h2 : b.size ≤ f + s) :
    Post b (parsePropWith ps f b s) (fun r s' => s ≤ s' ∧ (r.isSome → s + 1 ≤ s')) := by
  refine Post.bind (parseIdentifier_post h1 h2) ?_
  rintro r s1 hs1 ⟨h01, h01'⟩
  cases r with
  | none => exact Post.pure hs1 (by simp; omega)
  | some name =>
    have := h01' rfl
    refine Post.bind (skipWhites_post hs1 (by omega)) ?_
    intro _ s2 hs2 h12
    refine Post.bind (consume_post cEq (by decide) hs2) ?_
    rintro _ _ hs3 ⟨rfl, -⟩
    refine Post.bind (skipWhites_post hs3 (by omega)) ?_
    intro _ s4 hs4 h34
    refine Post.bind (Q1 := fun _ s' => s4 = s')
      (Post.read hs4 fun c _ _ => Post.ite (fun _ => Post.fail) fun _ => Post.pure hs4 rfl) ?_
    rintro _ _ hs5 rfl
    refine Post.bind (hps f _ hs5 (by omega)) ?_
    intro v s6 hs6 h56
    exact Post.pure hs6 (by simp; omega)

theorem skipComment_post (h1 : s ≤ b.size) (h2 : b.size ≤ f + s) :
    Post b (skipComment f b s) (fun r s' => s ≤ s' ∧ (r = true → s + 1 ≤ s')) := by
  refine Post.read (k := 0) h1 fun c0 _ hnz0 =>
    Post.ite (fun h0 => ?_) fun _ => Post.pure h1 (by simp)
  refine Post.read (k := 1) (hnz0 (ne_of_beq h0 (by decide))) fun c1 _ _ =>
    Post.ite (fun _ => ?_) fun _ => Post.pure h1 (by simp)
  refine Post.bind (consumeComment_post h1 h2) ?_
  intro _ s2 hs2 h
  exact Post.pure hs2 (by omega)

theorem propLoop_post {ps : Nat → XmlM Bytes} (hps : PsOK b ps) (f : Nat) :
    ∀ {s acc}, s ≤ b.size → b.size + 1 ≤ f + s → Post b (propLoop ps f acc b s) (fun _ s' => s ≤ s') := by
  induction f with
  | zero => intro s acc h1 h2; omega
  | succ f ih =>
    intro s acc h1 h2
    refine Post.bind (parsePropWith_post hps h1 (by omega)) ?_
    rintro r s1 hs1 ⟨h01, h01'⟩
    cases r with
    | none => exact Post.pure hs1 h01
    | some kv =>
      have := h01' rfl
      refine Post.bind (skipWhites_post hs1 (by omega)) ?_
      intro _ s2 hs2 h12
      exact (ih hs2 (by omega)).fwd (by omega)

theorem headerPropLoop_post {ps : Nat → XmlM Bytes} (hps : PsOK b ps) (h1 : s ≤ b.size)
    (h2 : b.size + 1 ≤ f + s) : Post b (headerPropLoop ps f b s) (fun _ s' => s ≤ s') := by
  rw [headerPropLoop_eq ps f []]
  exact Post.bind (propLoop_post hps f h1 h2) fun _ _ hs h => Post.pure hs h

/-- the backward trimming loop stops at the latest on a non-space byte at an index `p < e`
    (in `parseNode`: the node's own `'<'`), so it never reads before the buffer. -/
theorem trimBack_post {p : Nat} {c : UInt8} (hp : rd b p = .ok c) (hc : isSpace c = false)
    (hs : s ≤ b.size) : ∀ e, p < e → e ≤ b.size + 1 →
    Post b (trimBack e b s) (fun _ s' => s = s') := by
  intro e
  induction e with
  | zero => intro h; omega
  | succ e ih =>
    intro h1 h2
    unfold trimBack
    obtain ⟨c', hc', -⟩ := rd_le (b := b) (i := e) (by omega)
    simp only [bind_apply, rdAbs, hc']
    refine Post.ite (fun hsp => ih ?_ (by omega)) fun _ => Post.pure hs rfl
    have : p ≠ e := by
      rintro rfl
      cases hp.symm.trans hc'; rw [hc] at hsp; cases hsp
    omega

theorem nodeLoop_post {pn : XmlM Node} {name : Bytes} {props : List (Bytes × Bytes)}
    {p0 : Nat} (hp0 : rd b p0 = .ok cLT)
    (hpn : ∀ s, p0 < s → s ≤ b.size → Post b (pn b s) (fun _ s' => s + 1 ≤ s')) (f : Nat) :
    ∀ {s content children}, p0 < s → s ≤ b.size → b.size + 2 ≤ f + s →
      Post b (nodeLoop pn name props f content children b s) (fun _ s' => s ≤ s') := by
  induction f with
  | zero => intro s _ _ _ h1 h2; omega
  | succ f ih =>
    intro s content children hp h1 h2
    refine Post.bind (skipWhites_post h1 (by omega)) ?_
    intro _ s1 hs1 h01
    refine Post.bind (skipComment_post hs1 (by omega)) ?_
    rintro r s2 hs2 ⟨h12, h12'⟩
    -- every way round the loop ends in the same call, further on in the buffer
    have next : ∀ {s3 content children}, s < s3 → s3 ≤ b.size →
        Post b (nodeLoop pn name props f content children b s3) (fun _ s' => s ≤ s') :=
      fun h23 hs3 => (ih (by omega) hs3 (by omega)).fwd (by omega)
    refine Post.ite (fun hr => next (by have := h12' hr; omega) hs2) fun _ => ?_
    refine Post.read (k := 0) hs2 fun c0 hc0 hnz0 => Post.ite (fun h0 => ?_) fun h0 => ?_
    · refine Post.read (k := 1) (hnz0 (ne_of_beq h0 (by decide))) fun c1 _ _ =>
        Post.ite (fun _ => ?_) fun _ => ?_
      · refine Post.bind (consumeWord_post [cLT, cSlash] (by decide) hs2) ?_
        rintro _ _ hs3 rfl
        refine Post.bind (parseIdentifier_post hs3 (by omega)) ?_
        rintro r s4 hs4 ⟨h34, -⟩
        refine Post.ite (fun _ => Post.fail) fun _ => ?_
        refine Post.bind (consumeWord_post [cGT] (by decide) hs4) ?_
        rintro _ _ hs5 rfl
        exact Post.pure hs5 (by omega)
      · refine Post.bind (hpn s2 (by omega) hs2) ?_
        intro ch s3 hs3 h23
        exact next (by omega) hs3
    · refine Post.ite (fun _ => Post.pure hs2 (by omega)) fun hz =>
        Post.ite (fun _ => Post.fail) fun _ => ?_
      rw [contentLoop_eq]
      refine Post.pos (Post.bind (scanWhile_post rfl f hs2 (by omega)) ?_)
      rintro _ s3 hs3 ⟨h23, c, hc, hstop⟩
      -- the scan has moved: it stopped on `<` or 0, and `c0` is neither
      have : s2 ≠ s3 := by
        rintro rfl
        cases hc0.symm.trans hc
        have : (c0 != cLT && c0 != 0) = true := by
          rw [Bool.and_eq_true, bne_iff, bne_iff]; exact ⟨mt beq_iff.2 h0, mt beq_iff.2 hz⟩
        cases this.symm.trans hstop
      refine Post.pos (Post.bind (trimBack_post hp0 (by decide) hs3 _ (by omega) (by omega)) ?_)
      rintro en' _ hs4 rfl
      refine Post.bind (makeString_post hs4) ?_
      rintro v _ hs5 rfl
      exact next (by omega) hs5

theorem parseNodeWith_post {ps : Nat → XmlM Bytes} (hps : PsOK b ps) (f : Nat) :
    ∀ {s}, s ≤ b.size → b.size + 1 ≤ f + s →
      Post b (parseNodeWith ps f b s) (fun _ s' => s + 1 ≤ s') := by
  induction f with
  | zero => intro s h1 h2; omega
  | succ f ih =>
    intro s h1 h2
    refine Post.bind (consume_post cLT (by decide) h1) ?_
    rintro _ _ hs1 ⟨rfl, hp0⟩
    refine Post.bind (parseIdentifier_post hs1 (by omega)) ?_
    rintro r s2 hs2 ⟨h12, h12'⟩
    cases r with
    | none => exact Post.fail
    | some name =>
      have := h12' rfl
      refine Post.bind (skipWhites_post hs2 (by omega)) ?_
      intro _ s3 hs3 h23
      refine Post.bind (propLoop_post hps f hs3 (by omega)) ?_
      intro props s4 hs4 h34
      refine Post.read hs4 fun c _ _ => Post.ite (fun _ => ?_) fun _ => ?_
      · refine Post.bind (consumeWord_post [cSlash, cGT] (by decide) hs4) ?_
        rintro _ _ hs5 rfl
        exact Post.pure hs5 (by omega)
      · refine Post.bind (consumeWord_post [cGT] (by decide) hs4) ?_
        rintro _ _ hs5 rfl
        exact (nodeLoop_post hp0 (fun s' _ hs' => ih hs' (by omega)) f (by omega) hs5
          (by simp; omega)).fwd (by omega)

theorem parseHeaderWith_post {ps : Nat → XmlM Bytes} (hps : PsOK b ps) (h1 : s ≤ b.size)
    (h2 : b.size ≤ f + s) : Post b (parseHeaderWith ps f b s) (fun _ s' => s ≤ s') := by
  -- 120, 109, 108: "xml", as the model writes it
  refine Post.bind (consumeWord_post [cLT, cQuest, 120, 109, 108] (by decide) h1) ?_
  rintro _ _ hs1 rfl
  refine Post.read (k := 0) hs1 fun c0 _ hnz0 => ?_
  refine Post.bind (Q1 := fun _ s' => s' = s + 5) (Post.ite (fun h0 => ?_) fun _ => Post.pure hs1 rfl) ?_
  · exact Post.read (k := 1) (hnz0 (ne_of_beq h0 (by decide))) fun c1 _ _ => Post.pure hs1 rfl
  rintro isEnd _ hs2 rfl
  refine Post.ite (fun _ => ?_) fun _ => ?_
  · refine Post.bind (consumeWord_post [cQuest, cGT] (by decide) hs2) ?_
    rintro _ _ hs3 rfl
    exact Post.pure hs3 (by omega)
  · refine Post.read hs2 fun c _ hnz => Post.ite (fun _ => Post.pure hs2 (by omega)) fun hw => ?_
    have := hnz (ne_of_class (p := isWhite) (by simpa using hw) rfl)
    refine Post.adv (Post.bind (skipWhites_post (s := s + 5 + 1) (by omega) (by omega)) ?_)
    intro _ s4 hs4 h34
    refine Post.bind (headerPropLoop_post hps hs4 (by omega)) ?_
    intro _ s5 hs5 h45
    refine Post.bind (consumeWord_post [cQuest, cGT] (by decide) hs5) ?_
    rintro _ _ hs6 rfl
    exact Post.pure hs6 (by omega)

theorem topLoop_post {ps : Nat → XmlM Bytes} (hps : PsOK b ps) (f : Nat) :
    ∀ {s acc}, s ≤ b.size → b.size + 2 ≤ f + s → Post b (topLoop ps f acc b s) (fun _ s' => s ≤ s') := by
  induction f with
  | zero => intro s acc h1 h2; omega
  | succ f ih =>
    intro s acc h1 h2
    refine Post.read h1 fun c _ _ => Post.ite (fun _ => ?_) fun _ => Post.pure h1 (Nat.le_refl _)
    refine Post.bind (skipComment_post h1 (by omega)) ?_
    rintro r s1 hs1 ⟨h01, h01'⟩
    refine Post.ite (fun hr => ?_) fun _ => ?_
    · have := h01' hr
      refine Post.bind (skipWhites_post hs1 (by omega)) ?_
      intro _ s2 hs2 h12
      exact (ih hs2 (by omega)).fwd (by omega)
    · refine Post.bind (parseNodeWith_post hps f hs1 (by omega)) ?_
      intro nd s2 hs2 h12
      refine Post.bind (skipWhites_post hs2 (by omega)) ?_
      intro _ s3 hs3 h23
      exact (ih hs3 (by omega)).fwd (by omega)

theorem parseXMLWith_post {ps : Nat → XmlM Bytes} (hps : PsOK b ps) (hf : b.size + 2 ≤ f) :
    Post b (parseXMLWith ps f b 0) (fun _ _ => True) := by
  have h0 : (0 : Nat) ≤ b.size := Nat.zero_le _
  refine Post.read (k := 0) h0 fun c0 _ hnz0 => ?_
  refine Post.bind (Q1 := fun _ s' => s' = 0) (Post.ite (fun h0' => ?_) fun _ => Post.pure h0 rfl) ?_
  · exact Post.read (k := 1) (hnz0 (ne_of_beq h0' (by decide))) fun c1 _ _ => Post.pure h0 rfl
  rintro hdr _ _ rfl
  refine Post.bind (Q1 := fun _ _ => True) (Post.ite (fun _ => ?_) fun _ => Post.pure h0 trivial) ?_
  · exact (parseHeaderWith_post hps h0 (by omega)).mono fun _ _ _ _ => trivial
  intro hok s2 hs2 _
  refine Post.ite (fun _ => Post.fail) fun _ => ?_
  refine Post.bind (skipWhites_post hs2 (by omega)) ?_
  intro _ s3 hs3 _
  refine Post.bind (topLoop_post hps f hs3 (by omega)) ?_
  intro doc s4 hs4 _
  exact Post.read hs4 fun c _ _ => Post.ite (fun _ => Post.fail) fun _ => Post.pure hs4 trivial

end RkVerif.C16
