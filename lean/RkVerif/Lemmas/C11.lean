/- Helper lemmas for C11: heap primitives, the invariant `Inv`, and `Ok`, the one statement about a change of state
   from which both the preservation of `Inv` and the frame properties of every operation follow. -/
import RkVerif.Model.C11
namespace RkVerif.C11

theorem getD_set {α : Type} (l : List α) (i j : Nat) (x d : α) :
    (l.set i x).getD j d = if i = j ∧ i < l.length then x else l.getD j d := by grind

theorem getD_none_eq_some {α : Type} {l : List (Option α)} {i : Nat} {x : α} (h : l.getD i none = some x) :
    l[i]? = some (some x) := by
  rcases Option.getD_eq_iff.mp h with h | ⟨_, h⟩
  · exact h
  · cases h

theorem length_take_drop {α : Type} (l : List α) {o cnt : Nat} (h : o + cnt ≤ l.length) :
    ((l.drop o).take cnt).length = cnt := by
  rw [List.length_take, List.length_drop]; omega

theorem getD_replicate_none {α : Type} (n i : Nat) : (List.replicate n (none : Option α)).getD i none = none := by
  simp only [List.getD_eq_getElem?_getD, List.getElem?_replicate]; split <;> rfl

theorem flatten_length_uniform (records : List (List Nat)) (stride : Nat) (hl : ∀ r ∈ records, r.length = stride) :
    records.flatten.length = records.length * stride := by
  rw [List.length_flatten, List.map_eq_replicate_iff.mpr hl, List.sum_replicate_nat]

theorem drop_flatten_uniform (records : List (List Nat)) (stride i : Nat) (hl : ∀ r ∈ records, r.length = stride)
    (hi : i < records.length) :
    records.flatten.drop (i * stride) = records[i] ++ (records.drop (i + 1)).flatten := by
  induction records generalizing i with
  | nil => cases hi
  | cons r rest ih =>
    cases i with
    | zero => simp
    | succ i =>
      obtain rfl := hl r List.mem_cons_self
      rw [List.flatten_cons, Nat.add_mul, Nat.one_mul, Nat.add_comm, List.drop_length_add_append]
      exact ih i (fun r' hr => hl r' (List.mem_cons_of_mem _ hr)) (Nat.lt_of_succ_lt_succ hi)

theorem cellAt_oob (h : Heap) (a : Nat) (ha : h.length ≤ a) : cellAt h a = deadCell := by
  simp [cellAt, List.getD_eq_getElem?_getD, List.getElem?_eq_none ha]

theorem liveAt_lt {h : Heap} {a : Nat} (hl : liveAt h a = true) : a < h.length := by
  by_cases ha : a < h.length
  · exact ha
  · have := cellAt_oob h a (by omega); simp [liveAt, this, deadCell] at hl

theorem alloc_length (h : Heap) (t : Tag) (xs : List Nat) : (alloc h t xs).1.length = h.length + 1 := by
  simp [alloc]

theorem alloc_id (h : Heap) (t : Tag) (xs : List Nat) : (alloc h t xs).2 = h.length := rfl

theorem free_length (h : Heap) (a : Nat) : (free h a).length = h.length := by simp [free]
theorem write_length (h : Heap) (a k v : Nat) : (write h a k v).length = h.length := by simp [write]

theorem cellAt_alloc (h : Heap) (t : Tag) (xs : List Nat) (x : Nat) :
    cellAt (alloc h t xs).1 x = if x = h.length then ⟨true, t, xs⟩ else cellAt h x := by
  simp only [cellAt, alloc, List.getD_eq_getElem?_getD]
  rcases Nat.lt_trichotomy x h.length with hx | rfl | hx
  · rw [List.getElem?_append_left hx, if_neg (Nat.ne_of_lt hx)]
  · rw [List.getElem?_concat_length, if_pos rfl]; rfl
  · rw [List.getElem?_eq_none (Nat.le_of_lt hx), List.getElem?_eq_none, if_neg (Nat.ne_of_gt hx)]
    rw [List.length_append]; exact hx

/-- `free` and `write` replace cell `a` by a function of its content that maps the dead cell to itself.  Outside the
    heap nothing is written, and `cellAt` reads the dead cell there before and after: no bound on `a` is needed. -/
theorem cellAt_upd (f : Cell → Cell) (hf : f deadCell = deadCell) (h : Heap) (a x : Nat) :
    cellAt (h.set a (f (cellAt h a))) x = if x = a then f (cellAt h a) else cellAt h x := by
  rw [cellAt, getD_set]
  by_cases e : x = a
  · subst e
    by_cases hl : x < h.length
    · rw [if_pos ⟨rfl, hl⟩, if_pos rfl]
    · rw [if_neg (fun c => hl c.2), if_pos rfl]
      show cellAt h x = f (cellAt h x)
      rw [cellAt_oob h x (Nat.le_of_not_lt hl), hf]
  · rw [if_neg (fun c => e c.1.symm), if_neg e]; rfl

theorem cellAt_free (h : Heap) (a x : Nat) :
    cellAt (free h a) x = if x = a then { cellAt h a with live := false } else cellAt h x :=
  cellAt_upd (fun c => { c with live := false }) rfl h a x

theorem cellAt_write (h : Heap) (a k v x : Nat) :
    cellAt (write h a k v) x = if x = a then { cellAt h a with data := (cellAt h a).data.set k v } else cellAt h x :=
  cellAt_upd (fun c => { c with data := c.data.set k v }) rfl h a x

structure Keeps (h h' : Heap) (a : Nat) : Prop where
  live : liveAt h' a = liveAt h a
  tag : (cellAt h' a).tag = (cellAt h a).tag
  len : lenAt h' a = lenAt h a

theorem keeps_of_cell {h h' : Heap} {a : Nat} (e : cellAt h' a = cellAt h a) : Keeps h h' a :=
  ⟨by simp [liveAt, e], by simp [e], by simp [lenAt, e]⟩

theorem keeps_write (h : Heap) (a k v x : Nat) : Keeps h (write h a k v) x := by
  by_cases e : x = a
  · subst e; constructor <;> simp [liveAt, lenAt, cellAt_write]
  · exact keeps_of_cell ((cellAt_write h a k v x).trans (if_neg e))

theorem keeps_refl (h : Heap) (a : Nat) : Keeps h h a := ⟨rfl, rfl, rfl⟩

theorem keeps_trans {h1 h2 h3 : Heap} {a : Nat} (x : Keeps h1 h2 a) (y : Keeps h2 h3 a) : Keeps h1 h3 a :=
  ⟨y.live.trans x.live, y.tag.trans x.tag, y.len.trans x.len⟩

theorem keeps_alloc (h : Heap) (t : Tag) (xs : List Nat) (a : Nat) (ha : a < h.length) :
    Keeps h (alloc h t xs).1 a := keeps_of_cell ((cellAt_alloc h t xs a).trans (if_neg (Nat.ne_of_lt ha)))

theorem keeps_free_ne (h : Heap) (a x : Nat) (hx : x ≠ a) : Keeps h (free h a) x :=
  keeps_of_cell ((cellAt_free h a x).trans (if_neg hx))

theorem lenAt_alloc_new (h : Heap) (t : Tag) (xs : List Nat) : lenAt (alloc h t xs).1 h.length = xs.length := by
  rw [lenAt, cellAt_alloc, if_pos rfl]

def ownAlloc : W → Option Nat
  | .av _ => none
  | .oa _ x => some x
  | .fa _ a => a
  | .fav _ a => a

def WOk (h : Heap) : W → Prop
  | .av _ => True
  | .oa b x => liveAt h x = true ∧ (cellAt h x).tag = .vec ∧ b = setPtr (some ⟨x, 0⟩) (lenAt h x)
  | .fa b none => b = ⟨none, 0⟩
  | .fa b (some a) => liveAt h a = true ∧ (cellAt h a).tag = .shared ∧ b = setPtr (some ⟨a, 0⟩) (lenAt h a)
  | .fav b none => b = ⟨none, 0⟩
  | .fav b (some a) => liveAt h a = true ∧ (cellAt h a).tag = .shared ∧ (b.ptr = none → b.n = 0) ∧
      ∀ p, b.ptr = some p → p.a = a ∧ p.off + b.n ≤ lenAt h a

theorem WOk_keeps {h h' : Heap} : ∀ {w : W}, WOk h w → (∀ a, ownAlloc w = some a → Keeps h h' a) → WOk h' w
  | .av _, _, _ => trivial
  | .fa _ none, ok, _ | .fav _ none, ok, _ => ok
  | .oa _ x, ok, k | .fa _ (some x), ok, k | .fav _ (some x), ok, k => by
    have := k x rfl
    simp only [WOk] at ok ⊢
    rw [this.live, this.tag, this.len]; exact ok

theorem WOk_own {h : Heap} : ∀ {w : W}, WOk h w → ∀ {a : Nat}, ownAlloc w = some a →
    liveAt h a = true ∧ (cellAt h a).tag = if isOA (some w) then .vec else .shared
  | .oa _ _, ok, _, rfl | .fa _ (some _), ok, _, rfl | .fav _ (some _), ok, _, rfl => ⟨ok.1, ok.2.1⟩

theorem WOk_same_kind {h : Heap} {w w' : W} (ok : WOk h w) (ok' : WOk h w') {a : Nat} (e : ownAlloc w = some a)
    (e' : ownAlloc w' = some a) : isOA (some w') = isOA (some w) := by
  have := (WOk_own ok' e').2.symm.trans (WOk_own ok e).2
  revert this; cases isOA (some w') <;> cases isOA (some w) <;> simp

theorem oa_of_isOA : ∀ {w : W} {z : Nat}, isOA (some w) = true → ownAlloc w = some z → ∃ b, w = .oa b z
  | .oa b _, _, _, rfl => ⟨b, rfl⟩

theorem holds_own (w : W) (a : Nat) : w.holds a = true ↔ (ownAlloc w = some a ∧ isOA (some w) = false) := by
  rcases w with _ | _ | ⟨_, _ | _⟩ | ⟨_, _ | _⟩ <;> simp [W.holds, ownAlloc, isOA]

structure Inv (s : State) : Prop where
  ok : ∀ i w, getW s i = some w → WOk s.heap w
  uniq : ∀ i j b1 b2 x, getW s i = some (.oa b1 x) → getW s j = some (.oa b2 x) → i = j
  bufs : ∀ b a, getBuf s b = some a → liveAt s.heap a = true ∧ (cellAt s.heap a).tag = .buf
  bufUniq : ∀ b b' a, getBuf s b = some a → getBuf s b' = some a → b = b'

theorem getW_some_lt {s : State} {i : Nat} {w : W} (h : getW s i = some w) : i < s.ws.length :=
  (List.getElem?_eq_some_iff.mp (getD_none_eq_some h)).1

theorem own_not_buf {s : State} (hinv : Inv s) {i : Nat} {w : W} (hi : getW s i = some w) {a : Nat}
    (ha : ownAlloc w = some a) (b : Nat) : getBuf s b ≠ some a := by
  intro hb
  have := (WOk_own (hinv.ok i w hi) ha).2.symm.trans (hinv.bufs b a hb).2
  split at this <;> cases this

def InUse (s : State) (a : Nat) : Prop :=
  (∃ b, getBuf s b = some a) ∨ ∃ i w, getW s i = some w ∧ ownAlloc w = some a

theorem InUse.live {s : State} (hinv : Inv s) {a : Nat} : InUse s a → liveAt s.heap a = true
  | .inl ⟨b, hb⟩ => (hinv.bufs b a hb).1
  | .inr ⟨i, w, hi, ha⟩ => (WOk_own (hinv.ok i w hi) ha).1

theorem holdsAny_false {ws : List (Option W)} {a : Nat} (hf : holdsAny ws a = false) (k : Nat) (w : W)
    (hk : ws.getD k none = some w) : w.holds a = false := by
  simp only [holdsAny, List.any_eq_false] at hf
  simpa using hf _ (List.mem_of_getElem? (getD_none_eq_some hk))

theorem dispose_eq (h : Heap) (ws : List (Option W)) : ∀ o : Option W,
    dispose h ws o = h ∨ ∃ w z, o = some w ∧ ownAlloc w = some z ∧ dispose h ws o = free h z ∧
      (isOA o = false → holdsAny ws z = false)
  | none | some (.av _) | some (.fa _ none) | some (.fav _ none) => .inl rfl
  | some (.oa _ x) => .inr ⟨_, x, rfl, rfl, rfl, nofun⟩
  | some (.fa _ (some a)) | some (.fav _ (some a)) => by
    by_cases hh : holdsAny ws a = true
    · left; simp [dispose, release, hh]
    · right; exact ⟨_, a, rfl, rfl, by simp [dispose, release, hh], fun _ => by simpa using hh⟩

theorem getW_install (s : State) (i : Nat) (nw : Option W) (k : Nat) :
    getW (install s i nw) k = if i = k ∧ i < s.ws.length then nw else getW s k := by
  simp only [getW, install, getD_set]

theorem getBuf_install (s : State) (i : Nat) (nw : Option W) (b : Nat) : getBuf (install s i nw) b = getBuf s b := rfl

def Op.targets (op : Op) (k : Nat) : Bool :=
  match op with
  | .bufNew _ _ | .bufFree _ | .bufSet _ _ _ | .wset _ _ _ => false
  | .avDefault i | .avSet i _ _ | .avReset i | .oaDefault i | .oaSet i _ _ | .oaReset i | .oaResize i _ _
  | .faDefault i | .faSize i _ | .faSet i _ _ | .favDefault i | .favNew i _ _ _ | .destroy i => k == i
  | .copy i j mv | .assign i j mv => k == i || (mv && k == j)

/-- the slots an operation may change: its targets, and for an element write every wrapper that owns the
    allocation written to -/
def Op.touches (s : State) : Op → Nat → W → Prop
  | .wset k _ _, _, w => ∃ wk p, getW s k = some wk ∧ wk.base.ptr = some p ∧ ownAlloc w = some p.a
  | op, i, _ => op.targets i = true

theorem Op.touches_cases {op : Op} {s : State} {i : Nat} {w : W} : op.touches s i w → op.targets i = true ∨
    ∃ k x v, op = .wset k x v ∧ ∃ wk p, getW s k = some wk ∧ wk.base.ptr = some p ∧ ownAlloc w = some p.a := by
  cases op <;> first | exact .inl | exact fun h => .inr ⟨_, _, _, rfl, h⟩

structure Frame (s s' : State) (i : Nat) (w : W) : Prop where
  same : getW s' i = some w
  cell : ∀ a, ownAlloc w = some a → cellAt s'.heap a = cellAt s.heap a

theorem Frame.trans {s1 s2 s3 : State} {i : Nat} {w : W} (x : Frame s1 s2 i w) (y : Frame s2 s3 i w) : Frame s1 s3 i w :=
  ⟨y.same, fun a ha => (y.cell a ha).trans (x.cell a ha)⟩

/-- The change from `s` to `s'` touches at most the pairs (slot, wrapper) in `T`.  Every operation is a sequence of a
    few primitive changes, and each of those is `Ok`. -/
structure Ok (T : Nat → W → Prop) (s s' : State) : Prop where
  inv : Inv s'
  len : s'.ws.length = s.ws.length
  frame : ∀ i w, getW s i = some w → ¬ T i w → Frame s s' i w

theorem Ok.refl {T : Nat → W → Prop} {s : State} (hinv : Inv s) : Ok T s s :=
  ⟨hinv, rfl, fun _ _ hi _ => ⟨hi, fun _ _ => rfl⟩⟩

theorem Ok.trans {T : Nat → W → Prop} {s1 s2 s3 : State} (x : Ok T s1 s2) (y : Ok T s2 s3) : Ok T s1 s3 :=
  ⟨y.inv, y.len.trans x.len,
   fun i w hi ht => (x.frame i w hi ht).trans (y.frame i w (x.frame i w hi ht).same ht)⟩

theorem Ok.mono {T T' : Nat → W → Prop} {s s' : State} (hT : ∀ i w, T i w → T' i w) (x : Ok T s s') : Ok T' s s' :=
  ⟨x.inv, x.len, fun i w hi ht => x.frame i w hi (fun h => ht (hT i w h))⟩

def Fits (s : State) (nw : Option W) : Prop :=
  (∀ w, nw = some w → WOk s.heap w) ∧ ∀ b x, nw = some (.oa b x) → ∀ k b', getW s k ≠ some (.oa b' x)

def FitsBuf (s : State) (nb : Option Nat) : Prop :=
  ∀ a, nb = some a → (liveAt s.heap a = true ∧ (cellAt s.heap a).tag = .buf) ∧ ∀ b, getBuf s b ≠ some a

section prims
variable {T : Nat → W → Prop} {s : State} (hinv : Inv s)
include hinv

theorem inv_heap (h' : Heap) (hk : ∀ a, InUse s a → Keeps s.heap h' a) : Inv { s with heap := h' } :=
  ⟨fun i w hi => WOk_keeps (hinv.ok i w hi) (fun a ha => hk a (.inr ⟨i, w, hi, ha⟩)), hinv.uniq,
   fun b a e => have k := hk a (.inl ⟨b, e⟩); ⟨k.live.trans (hinv.bufs b a e).1, k.tag.trans (hinv.bufs b a e).2⟩,
   hinv.bufUniq⟩

theorem ok_cell (h' : Heap) (z : Nat) (hd : ∀ x, x ≠ z → cellAt h' x = cellAt s.heap x) (hz : ¬ InUse s z) :
    Ok T s { s with heap := h' } :=
  have hc : ∀ a, InUse s a → cellAt h' a = cellAt s.heap a := fun a ha => hd a fun (e : a = z) => hz (e ▸ ha)
  ⟨inv_heap hinv h' fun a ha => keeps_of_cell (hc a ha), rfl,
   fun i w hi _ => ⟨hi, fun a ha => hc a (.inr ⟨i, w, hi, ha⟩)⟩⟩

theorem ok_alloc (t : Tag) (xs : List Nat) : Ok T s { s with heap := (alloc s.heap t xs).1 } :=
  ok_cell hinv _ s.heap.length (fun x hx => (cellAt_alloc _ t xs x).trans (if_neg hx))
    fun hu => Nat.lt_irrefl _ (liveAt_lt (hu.live hinv))

theorem ok_free (z : Nat) (hz : ¬ InUse s z) : Ok T s { s with heap := free s.heap z } :=
  ok_cell hinv _ z (fun x hx => (cellAt_free _ z x).trans (if_neg hx)) hz

theorem ok_write (a k v : Nat) (hT : ∀ i w, getW s i = some w → ownAlloc w = some a → T i w) :
    Ok T s { s with heap := write s.heap a k v } :=
  ⟨inv_heap hinv _ fun x _ => keeps_write _ a k v x, rfl,
   fun i w hi ht => ⟨hi, fun x hx => (cellAt_write _ a k v x).trans (if_neg fun (e : x = a) => ht (hT i w hi (e ▸ hx)))⟩⟩

theorem ok_setBuf (b : Nat) {nb : Option Nat} (hn : FitsBuf s nb) :
    Ok T s { s with bufs := s.bufs.set b nb } := by
  refine ⟨⟨hinv.ok, hinv.uniq, ?_, ?_⟩, rfl, fun i w hi _ => ⟨hi, fun _ _ => rfl⟩⟩ <;>
    simp only [getBuf, getD_set]
  · intro b' a e
    split at e
    · exact (hn a e).1
    · exact hinv.bufs b' a e
  · intro b1 b2 a e1 e2
    split at e1 <;> split at e2
    · rename_i c1 c2; exact c1.1.symm.trans c2.1
    · exact absurd e2 ((hn a e1).2 b2)
    · exact absurd e1 ((hn a e2).2 b1)
    · exact hinv.bufUniq b1 b2 a e1 e2

theorem ok_rebind (b : Nat) {nb : Option Nat} (hn : FitsBuf s nb) {old : Nat} (ho : getBuf s b = some old) :
    Ok T s { s with heap := free s.heap old, bufs := s.bufs.set b nb } := by
  have h1 : Ok T s _ := ok_setBuf hinv b hn
  refine h1.trans (ok_free h1.inv old ?_)
  rintro (⟨b', e⟩ | ⟨i, w, hi, ha⟩)
  · simp only [getBuf, getD_set] at e
    split at e
    · exact (hn old e).2 b ho
    · rename_i hne
      exact hne ⟨hinv.bufUniq b b' old ho e, (List.getElem?_eq_some_iff.mp (getD_none_eq_some ho)).1⟩
  · exact own_not_buf hinv hi ha b ho

/-- `install` in two steps: first the slot gets its new occupant, then (`ok_dispose`) the members of the old
    occupant are destroyed. -/
theorem ok_setW (i : Nat) {nw : Option W} (hf : Fits s nw) :
    Ok (fun k _ => (k == i) = true) s { s with ws := s.ws.set i nw } := by
  refine ⟨⟨?_, ?_, hinv.bufs, hinv.bufUniq⟩, List.length_set, ?_⟩ <;> simp only [getW, getD_set]
  · intro k w hk
    split at hk
    · exact hf.1 w hk
    · exact hinv.ok k w hk
  · intro k1 k2 b1 b2 x h1 h2
    split at h1 <;> split at h2
    · rename_i e1 e2; exact e1.1.symm.trans e2.1
    · exact absurd h2 (hf.2 b1 x h1 k2 b2)
    · exact absurd h1 (hf.2 b2 x h2 k1 b1)
    · exact hinv.uniq k1 k2 b1 b2 x h1 h2
  · intro k w hk hne
    refine ⟨?_, fun _ _ => rfl⟩
    rw [getW, getD_set, if_neg (fun h => hne (beq_iff_eq.mpr h.1.symm))]; exact hk

theorem ok_dispose (i : Nat) {nw : Option W} (hf : Fits s nw) :
    Ok T { s with ws := s.ws.set i nw } (install s i nw) := by
  have h1 := (ok_setW hinv i hf).inv
  rcases dispose_eq s.heap (s.ws.set i nw) (getW s i) with e | ⟨w, z, hw, hz, e, hh⟩ <;>
    simp only [install, e]
  · exact .refl h1
  -- `z`, owned by the old occupant `w`, is freed: no wrapper `w'` of the new pool owns it
  refine ok_free h1 z ?_
  rintro (⟨b, hb⟩ | ⟨k, w', hk, ho⟩)
  · exact own_not_buf hinv hw hz b hb
  have hoa := WOk_same_kind (hinv.ok i w hw) (h1.ok k w' hk) hz ho
  cases hwoa : isOA (some w) with
  | true =>
    -- two OwnedArrays with the same buffer
    obtain ⟨b, rfl⟩ := oa_of_isOA hwoa hz
    obtain ⟨b', rfl⟩ := oa_of_isOA (hoa.trans hwoa) ho
    simp only [getW, getD_set] at hk
    split at hk
    · exact hf.2 b' z hk i b hw
    · rename_i hne
      exact hne ⟨hinv.uniq i k b b' z hw hk, getW_some_lt hw⟩
  | false =>
    -- a shared allocation is freed only when nothing holds it
    have := holdsAny_false (hh (hw ▸ hwoa)) k w' hk
    rw [(holds_own w' z).mpr ⟨ho, hoa.trans hwoa⟩] at this
    cases this

theorem ok_install (i : Nat) {nw : Option W} (hf : Fits s nw) : Ok (fun k _ => (k == i) = true) s (install s i nw) :=
  (ok_setW hinv i hf).trans (ok_dispose hinv i hf)

end prims

/-- What a constructor returns on `s`: a heap `h1` (the heap of `s`, or that heap with one more allocation) and a
    wrapper `w`.  If `w` is an OwnedArray its buffer is the new allocation: it lies beyond the heap of `s`, where no
    wrapper of the pool owns anything. -/
structure Made (s : State) (h1 : Heap) (w : W) : Prop where
  inv : Inv s
  heap : Ok (fun _ _ => False) s { s with heap := h1 }
  ok : WOk h1 w
  oa : ∀ b x, w = .oa b x → s.heap.length ≤ x

theorem Made.fits {s : State} {h1 : Heap} {w : W} (m : Made s h1 w) : Fits { s with heap := h1 } (some w) :=
  ⟨by rintro _ ⟨⟩; exact m.ok, by
    rintro b x ⟨⟩ k b' hk
    exact Nat.not_lt.mpr (m.oa b x rfl) (liveAt_lt (m.inv.ok k _ hk).1)⟩

theorem ok_made {s : State} (i : Nat) {h1 : Heap} {w : W} (m : Made s h1 w) :
    Ok (fun k _ => (k == i) = true) s (install { s with heap := h1 } i (some w)) :=
  (m.heap.mono fun _ _ h => h.elim).trans (ok_install m.heap.inv i m.fits)

theorem mkOA_ok (h : Heap) (vals : List Nat) : WOk (mkOA h vals).1 (mkOA h vals).2 := by
  simp [mkOA, WOk, liveAt, lenAt, alloc_id, cellAt_alloc]

theorem mkFA_ok (h : Heap) (vals : List Nat) : WOk (mkFA h vals).1 (mkFA h vals).2 := by
  simp [mkFA, WOk, liveAt, lenAt, alloc_id, cellAt_alloc]

section made
variable {s : State} (hinv : Inv s)
include hinv

theorem made_plain {w : W} (hok : WOk s.heap w) (hno : isOA (some w) = false) : Made s s.heap w :=
  ⟨hinv, .refl hinv, hok, by rintro b x rfl; cases hno⟩

theorem made_mkOA (vals : List Nat) : Made s (mkOA s.heap vals).1 (mkOA s.heap vals).2 :=
  ⟨hinv, ok_alloc hinv .vec vals, mkOA_ok s.heap vals, by rintro b x ⟨⟩; exact Nat.le_refl _⟩

theorem made_mkFA (vals : List Nat) : Made s (mkFA s.heap vals).1 (mkFA s.heap vals).2 :=
  ⟨hinv, ok_alloc hinv .shared vals, mkFA_ok s.heap vals, nofun⟩

theorem made_copyOf {j : Nat} {w : W} (hj : getW s j = some w) (mv : Bool) :
    Made s (copyOf Cfg.fixed s.heap w mv).1 (copyOf Cfg.fixed s.heap w mv).2.1 :=
  match w, hinv.ok j w hj with
  | .oa _ buf, _ => made_mkOA hinv (cellAt s.heap buf).data
  | .av _, ok | .fa _ _, ok | .fav _ _, ok => made_plain hinv ok rfl

end made

theorem mkFAV_ok {h : Heap} {b : Base} {arr : Option Nat} {off cnt : Nat} (ok : WOk h (.fa b arr)) (hle : off + cnt ≤ b.n) :
    WOk h (mkFAV Cfg.fixed b arr off cnt) := by
  cases arr with
  | none =>
    cases (ok : b = ⟨none, 0⟩)
    obtain rfl : cnt = 0 := by have : off + cnt ≤ 0 := hle; omega
    rfl
  | some a =>
    obtain ⟨hl, ht, rfl⟩ := ok
    replace hle : off + cnt ≤ lenAt h a := hle
    refine ⟨hl, ht, ?_⟩
    by_cases hc : cnt > 0
    · have : lenAt h a > 0 := by omega
      simp [setPtr, hc, this]; omega
    · simp [setPtr, hc]; omega

theorem copyOf_moved {h : Heap} {w : W} {mv : Bool} (hm : (copyOf Cfg.fixed h w mv).2.2 = true) : mv = true := by
  cases w <;> first | exact hm | cases hm

theorem ok_copy {s : State} {h1 : Heap} {w : W} (m : Made s h1 w) (i j : Nat) (mv : Bool) :
    let s1 := install { s with heap := h1 } i (some w)
    Ok (fun k _ => (Op.copy i j mv).targets k = true) s s1 ∧
    (mv = true → Ok (fun k _ => (Op.copy i j mv).targets k = true) s (resetSrc s1 j)) := by
  have hi := (ok_made i m).mono (T' := fun k _ => (Op.copy i j mv).targets k = true) (fun k _ h => by simp [Op.targets, h])
  exact ⟨hi, fun hm => hi.trans ((ok_made j (made_mkOA hi.inv [])).mono fun k _ h => by simp [Op.targets, hm, h])⟩

theorem stepT_ok {s : State} (hinv : Inv s) (op : Op) : Ok (op.touches s) s (stepT Cfg.fixed s op) := by
  -- where a precondition fails nothing happens
  have refl : Ok (op.touches s) s s := .refl hinv
  cases op <;> simp only [stepT, step]
  case bufNew b xs =>
    have hA : Ok (Op.touches s (.bufNew b xs)) s _ := ok_alloc hinv .buf xs
    have hn : FitsBuf { s with heap := (alloc s.heap .buf xs).1 } (some (alloc s.heap .buf xs).2) := by
      rintro _ ⟨⟩
      exact ⟨by simp [liveAt, alloc_id, cellAt_alloc], fun b' e => Nat.lt_irrefl _ (liveAt_lt (hinv.bufs b' _ e).1)⟩
    cases hb : getBuf s b <;> split
    · exact hA.trans (ok_setBuf hA.inv b hn)
    · exact refl
    · exact hA.trans (ok_rebind hA.inv b hn hb)
    · exact refl
  case bufFree b =>
    split
    · rename_i a hb; exact ok_rebind hinv b (nb := none) nofun hb
    · exact refl
  case bufSet b k v =>
    split
    · rename_i a hb
      split
      · exact ok_write hinv a k v fun i w hi ha => absurd hb (own_not_buf hinv hi ha b)
      · exact refl
    · exact refl
  case avDefault i => exact ok_made i (made_plain hinv trivial rfl)
  case avSet i src fresh =>
    split
    · split
      · exact ok_made i (made_plain hinv trivial rfl)
      · exact refl
    · exact refl
  case avReset i =>
    split
    · exact ok_made i (made_plain hinv trivial rfl)
    · exact refl
  case oaDefault i => exact ok_made i (made_mkOA hinv [])
  case oaSet i src fresh =>
    split
    · split
      · exact ok_made i (made_mkOA hinv _)
      · exact refl
    · exact refl
  case oaReset i =>
    split
    · exact ok_made i (made_mkOA hinv [])
    · exact refl
  case oaResize i n v =>
    split
    · exact ok_made i (made_mkOA hinv _)
    · exact refl
  case faDefault i => exact ok_made i (made_plain hinv rfl rfl)
  case faSize i xs => exact ok_made i (made_mkFA hinv xs)
  case faSet i src fresh =>
    split
    · split
      · exact ok_made i (made_mkFA hinv _)
      · exact refl
    · exact refl
  case favDefault i => exact ok_made i (made_plain hinv rfl rfl)
  case favNew i j off cnt =>
    split
    · rename_i b arr hj
      split
      · rename_i hle; exact ok_made i (made_plain hinv (mkFAV_ok (hinv.ok j _ hj) hle) rfl)
      · exact refl
    · exact refl
  case copy i j mv =>
    split
    · rename_i w hj
      obtain ⟨h1, h2⟩ := ok_copy (made_copyOf hinv hj mv) i j mv
      split
      · rename_i hm; exact h2 (copyOf_moved (Bool.and_eq_true_iff.mp hm).1)
      · exact h1
    · exact refl
  case assign i j mv =>
    -- between wrappers of the same kind, assignment is copy construction into the occupied slot
    split
    · rename_i hj; exact (ok_copy (made_copyOf hinv hj mv) i j mv).1
    · rename_i hj; exact (ok_copy (made_copyOf hinv hj mv) i j mv).1
    · rename_i hj; exact (ok_copy (made_copyOf hinv hj mv) i j mv).1
    · rename_i hj
      obtain ⟨h1, h2⟩ := ok_copy (made_copyOf hinv hj mv) i j mv
      simp only [show Cfg.fixed.oaRepoint = true from rfl, ite_true]
      split
      · exact refl
      · split
        · rename_i hm; exact h2 hm   -- copying an OwnedArray returns the flag `mv` itself
        · exact h1
    · exact refl
  case destroy i =>
    split
    · exact ok_install hinv i ⟨fun _ h => (nomatch h), fun _ _ h => (nomatch h)⟩
    · exact refl
  case wset i k v =>
    split
    · rename_i wk hk
      split
      · split
        · rename_i p hp; exact ok_write hinv p.a _ v fun _ _ _ ha => ⟨wk, p, hk, hp, ha⟩
        · exact refl
      · exact refl
    · exact refl

theorem inv_init (nb nw : Nat) : Inv (State.init nb nw) :=
  have hw : ∀ i, getW (State.init nb nw) i = none := getD_replicate_none nw
  have hb : ∀ b, getBuf (State.init nb nw) b = none := getD_replicate_none nb
  ⟨fun i _ h => (nomatch (hw i).symm.trans h), fun i _ _ _ _ h => (nomatch (hw i).symm.trans h),
   fun b _ h => (nomatch (hb b).symm.trans h), fun b _ _ h => (nomatch (hb b).symm.trans h)⟩

theorem run_ok {nb nw : Nat} {hist : List Op} (later : List Op) (hinv : Inv (runR Cfg.fixed nb nw hist)) :
    Ok (fun i w => ∃ op ∈ later, ∃ s, op.touches s i w) (runR Cfg.fixed nb nw hist)
      (runR Cfg.fixed nb nw (later ++ hist)) := by
  induction later with
  | nil => exact .refl hinv
  | cons op rest ih =>
    exact (ih.mono fun i w ⟨o, ho, h⟩ => ⟨o, List.mem_cons_of_mem _ ho, h⟩).trans
      ((stepT_ok ih.inv op).mono fun i w h => ⟨op, List.mem_cons_self, _, h⟩)

theorem reachable_inv (nb nw : Nat) (hist : List Op) : Inv (runR Cfg.fixed nb nw hist) :=
  List.append_nil hist ▸ (run_ok (hist := []) hist (inv_init nb nw)).inv

theorem run_ws_length (nb nw : Nat) (hist : List Op) : (runR Cfg.fixed nb nw hist).ws.length = nw := by
  have := (run_ok (hist := []) hist (inv_init nb nw)).len
  simpa [runR, State.init] using this

theorem valid_of_ok {h : Heap} : ∀ {w : W}, WOk h w → w.owning = true →
    w.base.valid h = true ∧ ∀ p, w.base.ptr = some p → ownAlloc w = some p.a
  | .fa _ none, rfl, _ | .fav _ none, rfl, _ => ⟨rfl, nofun⟩
  | .oa _ x, ⟨hl, _, hb⟩, _ | .fa _ (some x), ⟨hl, _, hb⟩, _ => by
    subst hb
    by_cases hn : lenAt h x > 0 <;> simp [W.base, Base.valid, setPtr, hn, hl, ownAlloc]
    omega
  | .fav b (some a), ⟨hl, _, hnone, hsome⟩, _ => by
    cases hp : b.ptr with
    | none => simp [W.base, Base.valid, hp, hnone hp]
    | some p =>
      have := hsome p hp
      simp [W.base, Base.valid, hp, ownAlloc, this.1, hl, this.2]

theorem read_of_frame {s s' : State} {i : Nat} {w : W} (ok : WOk s.heap w) (ho : w.owning = true)
    (f : Frame s s' i w) : w.base.read s'.heap = w.base.read s.heap := by
  have hv := (valid_of_ok ok ho).2
  cases hp : w.base.ptr with
  | none => simp [Base.read, hp]
  | some p => simp [Base.read, hp, f.cell p.a (hv p hp)]

theorem Ok.owning {T : Nat → W → Prop} {s s' : State} (h : Ok T s s') (hinv : Inv s) {i : Nat} {w : W}
    (hi : getW s i = some w) (ho : w.owning = true) (hT : ¬ T i w) :
    getW s' i = some w ∧ w.base.read s'.heap = w.base.read s.heap ∧ w.base.valid s'.heap = true :=
  have f := h.frame i w hi hT
  ⟨f.same, read_of_frame (hinv.ok i w hi) ho f, (valid_of_ok (h.inv.ok i w f.same) ho).1⟩

theorem setPtr_wellformed (p : Option Ptr) (n : Nat) (hp : n > 0 → p.isSome) : (setPtr p n).ptr = none → (setPtr p n).n = 0 := by
  simp only [setPtr]
  by_cases hn : n > 0
  · have := hp hn; cases p <;> simp_all
  · intro _; omega

theorem walk_spec (d cur fuel : Nat) (hf : d ≤ fuel) : walk cur (cur + d) fuel = some (List.range' cur d) := by
  induction d generalizing cur fuel with
  | zero => cases fuel <;> simp [walk]
  | succ d ih =>
    cases fuel with
    | zero => omega
    | succ fuel =>
      have : cur ≠ cur + (d + 1) := by omega
      have e : cur + (d + 1) = (cur + 1) + d := by omega
      simp only [walk, this, ite_false]
      rw [e, ih (cur + 1) fuel (by omega)]
      simp [List.range'_succ]

theorem view_reads (h : Heap) (a off cnt : Nat) :
    (setPtr (some ⟨a, off⟩) cnt).read h = ((cellAt h a).data.drop off).take cnt := by
  by_cases hc : cnt > 0
  · simp [setPtr, hc, Base.read]
  · have : cnt = 0 := by omega
    subst this; simp [setPtr, Base.read]

theorem subrange_reads {h : Heap} {b : Base} {off cnt : Nat} (hle : off + cnt ≤ b.n) (hv : b.valid h = true) :
    (setPtr (b.ptr.map fun p => ⟨p.a, p.off + off⟩) cnt).read h = ((b.read h).drop off).take cnt := by
  cases hp : b.ptr with
  | none =>
    have : cnt = 0 := by simp [Base.valid, hp] at hv; omega
    simp [Base.read, hp, this, setPtr]
  | some p =>
    rw [Option.map_some, view_reads]
    simp [Base.read, hp, List.drop_take, List.take_take, Nat.min_eq_left (show cnt ≤ b.n - off by omega)]

theorem oa_read {s : State} (hinv : Inv s) {i : Nat} {b : Base} {x : Nat} (hi : getW s i = some (.oa b x)) :
    b.n = (cellAt s.heap x).data.length ∧ b.read s.heap = (cellAt s.heap x).data := by
  rw [(hinv.ok i _ hi).2.2, view_reads]
  exact ⟨rfl, by simp [lenAt]⟩

theorem install_new {s : State} {h1 : Heap} {w : W} (m : Made s h1 w) {i : Nat} (hi : i < s.ws.length) :
    Frame { s with heap := h1 } (install { s with heap := h1 } i (some w)) i w :=
  have f := (ok_dispose (T := fun _ _ => False) m.heap.inv i m.fits).frame i w (by simp [getW, hi]) id
  -- `f` starts from the state in which the slot is set already; that state has the heap `h1` too
  ⟨f.same, f.cell⟩

theorem mkOA_post {s : State} (hinv : Inv s) (i : Nat) (vals : List Nat) (hi : i < s.ws.length) :
    let s1 := install { s with heap := (mkOA s.heap vals).1 } i (some (mkOA s.heap vals).2)
    getW s1 i = some (mkOA s.heap vals).2 ∧ (mkOA s.heap vals).2.base.read s1.heap = vals := by
  have f := install_new (made_mkOA hinv vals) hi
  refine ⟨f.same, (view_reads ..).trans ?_⟩
  rw [f.cell _ rfl]
  simp [mkOA, alloc_id, cellAt_alloc]

theorem resolve_vals_length {s : State} {src : Src} {r : Res} (h : resolve s src = some r) : r.vals.length = r.cnt := by
  cases src with
  | null => cases h; rfl
  | buf b off cnt =>
    simp only [resolve] at h
    split at h
    · cases h
    · split at h
      · rename_i hle; cases h; exact length_take_drop _ hle
      · cases h
  | wr j off cnt =>
    simp only [resolve] at h
    split at h
    · cases h
    · split at h
      · rename_i hc
        split at h
        · rename_i hp
          cases h
          -- a valid range with a null pointer has size 0, so `cnt = 0`
          simp only [Base.valid, hp, Bool.and_eq_true, decide_eq_true_eq, beq_iff_eq] at hc
          show 0 = cnt; omega
        · rename_i p hp
          cases h
          simp only [Base.valid, hp, Bool.and_eq_true, decide_eq_true_eq] at hc
          exact length_take_drop _ (show _ ≤ lenAt s.heap p.a by omega)
      · cases h

end RkVerif.C11
