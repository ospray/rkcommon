/-
The state after a history is read off the history (`closed`, `runR_eq_closed`), and from it
the reported count (`num_runR`): every theorem about `numTaskingThreads` evaluates `lastInit`/`lastPos` on its
history and nothing else. For the internal scheduler: the thread-creation loop, and the invariant that the thread
set never changes and every activation is on one of its threads (`Reachable.inv`), which all lie in `membersList n e`.
-/
import RkVerif.Model.C13

namespace RkVerif.C13

theorem startThreadsLoop_eq (n : Nat) : ∀ (fuel t : Nat), n - t ≤ fuel →
    startThreadsLoop n fuel t = List.range' t (n - t) := by
  intro fuel
  induction fuel with
  | zero =>
    intro t h
    rw [Nat.le_zero.mp h]; rfl
  | succ f ih =>
    intro t h
    rw [startThreadsLoop]
    split
    · rw [ih (t + 1) (by omega), show n - t = (n - (t + 1)) + 1 by omega, List.range'_succ]
    · rw [show n - t = 0 by omega]; rfl

theorem startThreads_eq (n : Nat) : startThreads n = List.range' 1 (n - 1) := by
  simp [startThreads, startThreadsLoop_eq n n 1 (by omega)]

theorem startThreads_length (n : Nat) : (startThreads n).length = n - 1 := by
  simp [startThreads_eq]

theorem mem_startThreads (n i : Nat) : i ∈ startThreads n ↔ 1 ≤ i ∧ i < n := by
  rw [startThreads_eq, List.mem_range'_1]
  omega

theorem startThreads_nodup (n : Nat) : (startThreads n).Nodup := by
  simp [startThreads_eq, List.nodup_range']

def isInit : Op → Bool
  | .init _ => true
  | _ => false

def lastPos : List Op → Option Nat
  | [] => none
  | .init n :: earlier => if n > 0 then some n.toNat else lastPos earlier
  | _ :: earlier => lastPos earlier

theorem skip_noInit {α : Type} (f : List Op → α) (hp : ∀ h, f (.pfor :: h) = f h) (hn : ∀ h, f (.num :: h) = f h)
    (later hist : List Op) (hl : ∀ op ∈ later, isInit op = false) : f (later ++ hist) = f hist := by
  induction later with
  | nil => rfl
  | cons op rest ih =>
    have ih := ih fun o ho => hl o (List.mem_cons_of_mem _ ho)
    cases op with
    | init n => exact absurd (hl _ (List.mem_cons_self ..)) (by simp [isInit])
    | pfor => rw [List.cons_append, hp, ih]
    | num => rw [List.cons_append, hn, ih]

theorem lastInit_append (later hist : List Op) (hl : ∀ op ∈ later, isInit op = false) :
    lastInit (later ++ hist) = lastInit hist :=
  skip_noInit lastInit (fun _ => rfl) (fun _ => rfl) later hist hl

theorem lastPos_append (later hist : List Op) (hl : ∀ op ∈ later, isInit op = false) :
    lastPos (later ++ hist) = lastPos hist :=
  skip_noInit lastPos (fun _ => rfl) (fun _ => rfl) later hist hl

theorem lastPos_of_lastInit_pos (hist : List Op) (n : Int) :
    lastInit hist = some n → n > 0 → lastPos hist = some n.toNat := by
  induction hist with
  | nil => simp [lastInit]
  | cons op earlier ih =>
    intro hl hn
    cases op with
    | init m =>
      simp only [lastInit, Option.some.injEq] at hl
      subst hl
      simp [lastPos, hn]
    | pfor => exact ih hl hn
    | num => exact ih hl hn

theorem lastPos_getD_pos (hist : List Op) (hw : Nat) (hhw : hw > 0) : (lastPos hist).getD hw > 0 := by
  induction hist with
  | nil => exact hhw
  | cons op earlier ih =>
    cases op with
    | init n =>
      simp only [lastPos]
      split
      · simp only [Option.getD_some]; omega
      · exact ih
    | pfor => exact ih
    | num => exact ih

/-- the handle that `construct b hw s n` returns: it owns a `global_control` under TBB with `n > 0` only -/
def handleOf (b : Backend) (n : Int) : Handle :=
  { numThreads := n, gc := if b = .tbb ∧ n > 0 then some n.toNat else none }

/-- The state after a history, read off the history: everything is decided by the last `init`, except OpenMP's
    setting (the last `init` with `n > 0`) and the internal scheduler that a loop creates before any `init`. -/
def closed (b : Backend) (hw : Nat) (hist : List Op) : St :=
  { handle := (lastInit hist).map (handleOf b)
    gcs := match lastInit hist with
      | some n => if b = .tbb ∧ n > 0 then [n.toNat] else []
      | none => []
    ompN := if b = .omp then lastPos hist else none
    sched := if b = .internal then
        match lastInit hist with
        | some n => some (initTaskSystemInternal hw (if n ≤ 0 then -1 else n))
        | none => if .pfor ∈ hist then some (initTaskSystemInternal hw (-1)) else none
      else none }

theorem erase_pair (a b : Nat) : [a, b].erase b = [a] := by
  by_cases h : a = b <;> simp [h]

theorem step_closed (b : Backend) (hw : Nat) (hist : List Op) (op : Op) :
    step b hw (closed b hw hist) op = closed b hw (op :: hist) := by
  cases op with
  | num => simp [step, closed, lastInit, lastPos]
  | pfor =>
    cases b <;> simp [step, closed, parallelFor, lastInit, lastPos]
    cases lastInit hist <;> simp
    by_cases hp : Op.pfor ∈ hist <;> simp [hp]
  | init n =>
    rcases hl : lastInit hist with _ | m <;> cases b <;> by_cases hn : n > 0 <;>
      simp [step, closed, initTaskingSystem, initMid, construct, destroy, handleOf, lastInit, lastPos, hl, hn]
    -- Unfolding settles every case but TBB after an earlier `init m`: there the old handle is destroyed after the
    -- new control was pushed, and it owned a control iff `0 < m`. `erase_pair` ([new, old].erase old = [new]) is
    -- why `gcs` never holds more than one value.
    all_goals by_cases hm : 0 < m <;> simp [hm, erase_pair]

theorem runR_eq_closed (b : Backend) (hw : Nat) (hist : List Op) : runR b hw hist = closed b hw hist := by
  induction hist with
  | nil => simp [runR, closed, lastInit, lastPos]
  | cons op earlier ih => rw [runR, ih, step_closed]

/-- The value `numTaskingThreads()` must report after `initTaskingSystem(n)`, `n > 0`. -/
def expected (b : Backend) (n : Int) : Int := if b = .debug then 1 else n

theorem expected_pos (b : Backend) {n : Int} (hn : n > 0) : expected b n > 0 := by
  unfold expected; split <;> omega

theorem expected_le (b : Backend) {n : Int} (hn : n > 0) : expected b n ≤ n := by
  unfold expected; split <;> omega

theorem num_runR (b : Backend) (hw : Nat) (hist : List Op) :
    numTaskingThreads b hw (runR b hw hist) =
      match lastInit hist with
      | none => 0
      | some n =>
        if n > 0 then (expected b n).toNat
        else if b = .debug then 1
        else if b = .omp then (lastPos hist).getD hw
        else hw := by
  rw [runR_eq_closed]
  cases hl : lastInit hist with
  | none => simp [numTaskingThreads, closed, hl]
  | some n =>
    by_cases hn : n > 0
    · have h1 : ¬ n < 1 := by omega
      have h0 : ¬ n ≤ 0 := by omega
      cases b <;>
        simp [numTaskingThreads, backendThreads, closed, hl, hn, h0, h1, lastPos_of_lastInit_pos hist n hl hn,
          expected, tbbActive, listMin, initTaskSystemInternal]
    · have h0 : n ≤ 0 := by omega
      cases b <;>
        simp [numTaskingThreads, backendThreads, closed, hl, hn, h0, tbbActive, initTaskSystemInternal]

theorem num_eq_backendThreads (b : Backend) (hw : Nat) {hist : List Op} {n : Int} (hl : lastInit hist = some n) :
    numTaskingThreads b hw (runR b hw hist) = backendThreads b hw (runR b hw hist) := by
  simp [numTaskingThreads, runR_eq_closed, closed, hl]

theorem num_pos (b : Backend) {hw : Nat} {hist : List Op} {n : Int} (hhw : hw > 0) (hl : lastInit hist = some n) :
    numTaskingThreads b hw (runR b hw hist) > 0 := by
  simp only [num_runR, hl]
  split
  next hn => exact Int.pos_iff_toNat_pos.mp (expected_pos b hn)
  next =>
    split
    · exact Nat.one_pos
    · split
      · exact lastPos_getD_pos hist hw hhw
      · exact hhw

theorem num_append (b : Backend) (hw : Nat) (later hist : List Op) (hl : ∀ op ∈ later, isInit op = false) :
    numTaskingThreads b hw (runR b hw (later ++ hist)) = numTaskingThreads b hw (runR b hw hist) := by
  rw [num_runR, num_runR, lastInit_append later hist hl, lastPos_append later hist hl]

theorem numTaskingThreadsOn_eq {b : Backend} {onInitThread : Bool} (hex : b ≠ .omp ∨ onInitThread = true)
    (hw : Nat) (s : St) : numTaskingThreadsOn b hw s onInitThread = numTaskingThreads b hw s := by
  unfold numTaskingThreadsOn numTaskingThreads backendThreadsOn
  cases b <;> cases onInitThread <;> simp_all

theorem sched_runR (hw : Nat) {hist : List Op} {n : Int} (hl : lastInit hist = some n) :
    (runR .internal hw hist).sched = some (initTaskSystemInternal hw (if n ≤ 0 then -1 else n)) := by
  simp [runR_eq_closed, closed, hl]

theorem dedup_nodup (l : List Thread) : (dedup l).Nodup := by
  induction l with
  | nil => simp [dedup]
  | cons t ts ih =>
    simp only [dedup]
    split
    · exact ih
    · rename_i h
      exact List.nodup_cons.mpr ⟨by simpa using h, ih⟩

theorem mem_dedup (l : List Thread) (t : Thread) : t ∈ dedup l ↔ t ∈ l := by
  induction l with
  | nil => simp [dedup]
  | cons x xs ih =>
    simp only [dedup]
    split
    next h =>
      have hx : x ∈ dedup xs := by simpa using h
      rw [List.mem_cons]
      exact ⟨fun h' => Or.inr (ih.mp h'), fun h' => h'.elim (fun e => e ▸ hx) ih.mpr⟩
    next => simp [ih]

def membersList (numThreads externals : Nat) : List Thread :=
  (List.range externals).map Thread.ext ++ (startThreads numThreads).map Thread.worker

theorem membersList_length (n e : Nat) : (membersList n e).length = e + (n - 1) := by
  simp [membersList, startThreads_length]

theorem member_mem (s : Sys) (t : Thread) (h : s.member t = true) :
    t ∈ membersList 0 s.externals ++ s.workers.map Thread.worker := by
  cases t with
  | ext e => simp [Sys.member] at h; simp [membersList, startThreads_eq, h]
  | worker i => simp [Sys.member] at h; simp [h]

theorem mem_popFrame {t : Thread} {fs : List Frame} {f : Frame} (h : f ∈ popFrame t fs) : f ∈ fs := by
  induction fs with
  | nil => simp [popFrame] at h
  | cons g gs ih =>
    simp only [popFrame] at h
    split at h
    · exact List.mem_cons_of_mem _ h
    · rcases List.mem_cons.mp h with h | h
      · subst h; simp
      · exact List.mem_cons_of_mem _ (ih h)

/-- States reachable from a freshly initialised scheduler by any sequence of enabled actions
    of any threads (every interleaving, any length). -/
inductive Reachable (n e : Nat) : Sys → Prop where
  | boot : Reachable n e (Sys.boot n e)
  | step {s s' : Sys} {a : Act} : Reachable n e s → s.step a = some s' → Reachable n e s'

/-- No action touches `workers` or `externals`; `run` and `inline` push a frame of a member thread, `ret` removes
    one. -/
theorem Reachable.inv {n e : Nat} {s : Sys} (h : Reachable n e s) :
    s.workers = startThreads n ∧ s.externals = e ∧ ∀ f ∈ s.frames, s.member f.thread = true := by
  induction h with
  | boot => exact ⟨rfl, rfl, nofun⟩
  | @step s s' a _ hs ih =>
    obtain ⟨hw, he, hf⟩ := ih
    -- every action is guarded by an `if`; `hs` says the guard held and what the new state is
    cases a <;> simp only [Sys.step] at hs <;> split at hs <;> cases hs
    case step.add => exact ⟨hw, he, hf⟩
    case step.run t hc => exact ⟨hw, he, List.forall_mem_cons.mpr ⟨(Bool.and_eq_true_iff.mp hc).1, hf⟩⟩
    case step.inline t hc => exact ⟨hw, he, List.forall_mem_cons.mpr ⟨(Bool.and_eq_true_iff.mp hc).1, hf⟩⟩
    case step.ret => exact ⟨hw, he, fun f hfm => hf f (mem_popFrame hfm)⟩

theorem mem_activeThreads (s : Sys) (t : Thread) : t ∈ s.activeThreads ↔ s.inBody t = true := by
  simp [Sys.activeThreads, mem_dedup, Sys.inBody]

theorem Reachable.inBody_mem {n e : Nat} {s : Sys} (h : Reachable n e s) {t : Thread} (ht : s.inBody t = true) :
    t ∈ membersList n e := by
  obtain ⟨hw, he, hf⟩ := h.inv
  simp only [Sys.inBody, List.any_eq_true, beq_iff_eq] at ht
  obtain ⟨f, hfm, rfl⟩ := ht
  have hm := member_mem s _ (hf f hfm)
  -- `member_mem` writes the externals as `membersList 0 _`, which has no workers
  rw [hw, he, membersList, show startThreads 0 = [] from rfl, List.map_nil, List.append_nil] at hm
  exact hm

theorem reachable_exec {n e : Nat} {s s' : Sys} (h : Reachable n e s) {acts : List Act}
    (hx : s.exec acts = some s') : Reachable n e s' := by
  induction acts generalizing s with
  | nil => cases hx; exact h
  | cons a rest ih =>
    simp only [Sys.exec] at hx
    split at hx
    next hs1 => exact ih (h.step hs1) hx
    next => cases hx

end RkVerif.C13
