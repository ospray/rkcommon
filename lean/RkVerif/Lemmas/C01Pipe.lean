/-
C01 §3 (Pipe): the inductive invariant of the flag protocol.

A slot is held by a reader exactly while its flag is `invalid` (`held`, `excl`), so the writer, which needs
`canWrite`, and a second CAS, which needs `canRead`, cannot touch it.  The tickets sitting in slots that are
published or being written (`PState.unclaimed`) are pairwise distinct, older than `next` and not yet claimed:
that is what makes the list of claimed tickets duplicate-free.

Imports `Lemmas.C01` for its lemmas on `upd`; nothing of the task-set path is used here.
-/
import RkVerif.Lemmas.C01
namespace RkVerif.C01

def PState.unclaimed (s : PState) (k : Nat) : Prop := s.flags k = .canRead ∨ s.wpc = some k

structure PInv (s : PState) : Prop where
  held : ∀ r k, (s.rpc r).slot = some k → s.flags k = .invalid
  excl : ∀ r r' k, r ≠ r' → (s.rpc r).slot = some k → (s.rpc r').slot ≠ some k
  clm : ∀ r k c, s.rpc r = .claimed k c → s.buf k = c ∧ c ∈ s.claimed
  wr : ∀ k, s.wpc = some k → s.flags k = .canWrite
  live : ∀ k, s.unclaimed k → s.buf k < s.next ∧ s.buf k ∉ s.claimed
  uniq : ∀ k k', s.unclaimed k → s.unclaimed k' → s.buf k = s.buf k' → k = k'
  nodup : s.claimed.Nodup
  old : ∀ c ∈ s.claimed, c < s.next
  outOk : ∀ cv ∈ s.out, cv.1 = cv.2 ∧ cv.1 ∈ s.claimed

/-- `hu` is `unclaimed k'` in the state after `flags k := v`, unfolded, so that it applies whatever the step does to
    the other fields. -/
theorem PState.unclaimed_of_upd {s : PState} (hwr : ∀ k, s.wpc = some k → s.flags k = .canWrite) {k k' : Nat}
    {v : Flag} (hv : v ≠ .canRead) (hk : s.flags k ≠ .canWrite)
    (hu : upd s.flags k v k' = .canRead ∨ s.wpc = some k') : s.unclaimed k' ∧ k' ≠ k :=
  hu.elim (fun hr => ⟨.inl (upd_eq_of_ne hr hv).2, (upd_eq_of_ne hr hv).1⟩)
    fun hw => ⟨.inr hw, fun e => hk (e ▸ hwr k' hw)⟩

theorem slot_upd {rpc : Nat → RPc} {r r' k' : Nat} {v : RPc} (h : (upd rpc r v r').slot = some k') :
    r' = r ∧ v.slot = some k' ∨ r' ≠ r ∧ (rpc r').slot = some k' := by
  obtain ⟨e, e'⟩ | ⟨e, e'⟩ := upd_cases rpc r v r' <;> rw [e'] at h
  · exact .inl ⟨e, h⟩
  · exact .inr ⟨e, h⟩

theorem pinv_step {s s' : PState} {a : PAct} (h : PInv s) (hs : pstep s a = some s') : PInv s' := by
  have flag_ne : ∀ {k k' : Nat} {f f' : Flag}, s.flags k = f → s.flags k' = f' → f ≠ f' → k ≠ k' :=
    fun hk hk' hne e => hne (hk ▸ hk' ▸ e ▸ rfl)
  cases a with
  | wBuf k =>
    simp only [pstep] at hs
    split at hs <;> cases hs
    next hc =>
    obtain ⟨hw, hf⟩ := hc
    -- a published slot is another slot and keeps its (older) ticket
    have pub : ∀ k', s.flags k' = .canRead → upd s.buf k s.next k' = s.buf k' ∧ s.buf k' < s.next ∧ s.buf k' ∉ s.claimed :=
      fun k' hr => ⟨upd_ne _ _ (flag_ne hr hf nofun), h.live k' (.inl hr)⟩
    refine ⟨h.held, h.excl, ?_, fun k' hk' => by cases hk'; exact hf, ?_, ?_, h.nodup,
      fun c hc => Nat.lt_succ_of_lt (h.old c hc), h.outOk⟩ <;> dsimp only
    · intro r k' c hr
      rw [upd_ne _ _ (flag_ne (h.held r k' (hr ▸ rfl)) hf nofun)]
      exact h.clm r k' c hr
    · rintro k' (hr | hw')
      · obtain ⟨e, lt, nm⟩ := pub k' hr
        exact e ▸ ⟨Nat.lt_succ_of_lt lt, nm⟩
      · cases hw'
        exact (upd_same ..).symm ▸ ⟨Nat.lt_succ_self _, fun hm => Nat.lt_irrefl _ (h.old _ hm)⟩
    · rintro k₁ k₂ (r₁ | w₁) (r₂ | w₂) e
      · rw [(pub k₁ r₁).1, (pub k₂ r₂).1] at e
        exact h.uniq k₁ k₂ (.inl r₁) (.inl r₂) e
      · cases w₂
        rw [(pub k₁ r₁).1, upd_same] at e
        exact absurd (pub k₁ r₁).2.1 (e ▸ Nat.lt_irrefl _)
      · cases w₁
        rw [(pub k₂ r₂).1, upd_same] at e
        exact absurd (pub k₂ r₂).2.1 (e ▸ Nat.lt_irrefl _)
      · cases w₁; cases w₂; rfl
  | wFlag =>
    simp only [pstep] at hs
    split at hs <;> cases hs
    next k hw =>
    have hf := h.wr k hw
    -- slot `k` stays unclaimed: it was being written, now it is published
    have un : ∀ k', upd s.flags k .canRead k' = .canRead ∨ none = some k' → s.unclaimed k' := by
      rintro k' (hr | hn)
      · obtain ⟨rfl, -⟩ | ⟨-, e⟩ := upd_cases s.flags k .canRead k'
        · exact .inr hw
        · exact .inl (e ▸ hr)
      · cases hn
    exact ⟨fun r k' hk' => (upd_ne _ _ (flag_ne (h.held r k' hk') hf nofun)).trans (h.held r k' hk'), h.excl, h.clm,
      nofun, fun k' hu => h.live k' (un k' hu), fun k₁ k₂ h₁ h₂ => h.uniq k₁ k₂ (un k₁ h₁) (un k₂ h₂), h.nodup, h.old,
      h.outOk⟩
  | cas r k =>
    simp only [pstep] at hs
    split at hs
    · next hidle =>
      split at hs <;> cases hs
      · next hcr =>
        obtain ⟨lt, nm⟩ := h.live k (.inl hcr)
        -- `r` now holds `k`; nobody else did or does
        have rpc' : ∀ r' k', (upd s.rpc r (.claimed k (s.buf k)) r').slot = some k' →
            r' = r ∧ k' = k ∨ r' ≠ r ∧ k' ≠ k ∧ (s.rpc r').slot = some k' := fun r' k' hk' =>
          (slot_upd hk').imp (fun e => ⟨e.1, (Option.some.inj e.2).symm⟩)
            fun e => ⟨e.1, flag_ne (h.held r' k' e.2) hcr nofun, e.2⟩
        have un := fun k' => PState.unclaimed_of_upd h.wr (k := k) (k' := k') (v := .invalid) nofun (by simp [hcr])
        refine ⟨?_, ?_, ?_, ?_, ?_, fun k₁ k₂ h₁ h₂ => h.uniq k₁ k₂ (un k₁ h₁).1 (un k₂ h₂).1,
          List.nodup_cons.2 ⟨nm, h.nodup⟩, List.forall_mem_cons.2 ⟨lt, h.old⟩,
          fun cv hcv => ⟨(h.outOk cv hcv).1, List.mem_cons_of_mem _ (h.outOk cv hcv).2⟩⟩ <;> dsimp only
        · intro r' k' hk'
          obtain ⟨-, rfl⟩ | ⟨-, e, hk⟩ := rpc' r' k' hk'
          · exact upd_same ..
          · exact (upd_ne _ _ e).trans (h.held r' k' hk)
        · intro r₁ r₂ k' hne h₁ h₂
          obtain ⟨e₁, ek⟩ | ⟨-, ek, h₁⟩ := rpc' r₁ k' h₁ <;> obtain ⟨e₂, ek'⟩ | ⟨-, ek', h₂⟩ := rpc' r₂ k' h₂
          · exact hne (e₁.trans e₂.symm)
          · exact ek' ek
          · exact ek ek'
          · exact h.excl r₁ r₂ k' hne h₁ h₂
        · intro r' k' c hr'
          obtain ⟨-, e⟩ | ⟨-, e⟩ := upd_cases s.rpc r (.claimed k (s.buf k)) r' <;> rw [e] at hr'
          · cases hr'; exact ⟨rfl, List.mem_cons_self⟩
          · exact ⟨(h.clm r' k' c hr').1, List.mem_cons_of_mem _ (h.clm r' k' c hr').2⟩
        · intro k' hw
          exact (upd_ne _ _ (un k' (.inr hw)).2).trans (h.wr k' hw)
        · intro k' hu
          obtain ⟨hu, e⟩ := un k' hu
          exact ⟨(h.live k' hu).1, fun hm => (List.mem_cons.1 hm).elim (fun eb => e (h.uniq k' k hu (.inl hcr) eb)) (h.live k' hu).2⟩
      · exact h
    · cases hs
  | copy r =>
    simp only [pstep] at hs
    split at hs <;> cases hs
    next k c hr =>
    -- every reader holds the slot it held
    have sl : ∀ r' k', (upd s.rpc r (.copied k) r').slot = some k' → (s.rpc r').slot = some k' := fun r' k' hk' =>
      (slot_upd hk').elim (fun e => by rw [e.1, hr]; exact e.2) (·.2)
    exact ⟨fun r' k' hk' => h.held r' k' (sl r' k' hk'), fun r₁ r₂ k' hne h₁ h₂ => h.excl r₁ r₂ k' hne (sl r₁ k' h₁) (sl r₂ k' h₂),
      fun r' k' c' hr' => h.clm r' k' c' (upd_eq_of_ne hr' nofun).2, h.wr, h.live, h.uniq, h.nodup, h.old,
      List.forall_mem_cons.2 ⟨⟨(h.clm r k c hr).1.symm, (h.clm r k c hr).2⟩, h.outOk⟩⟩
  | release r =>
    simp only [pstep] at hs
    split at hs <;> cases hs
    next k hr =>
    have hk : (s.rpc r).slot = some k := hr ▸ rfl
    -- the other readers hold other slots
    have rpc' : ∀ r' k', (upd s.rpc r .idle r').slot = some k' → k' ≠ k ∧ (s.rpc r').slot = some k' := fun r' k' hk' =>
      (slot_upd hk').elim (fun e => nomatch e.2) fun e => ⟨fun ek => h.excl r' r k e.1 (ek ▸ e.2) hk, e.2⟩
    have un := fun k' => PState.unclaimed_of_upd h.wr (k := k) (k' := k') (v := .canWrite) nofun (by simp [h.held r k hk])
    exact ⟨fun r' k' hk' => (upd_ne _ _ (rpc' r' k' hk').1).trans (h.held r' k' (rpc' r' k' hk').2),
      fun r₁ r₂ k' hne h₁ h₂ => h.excl r₁ r₂ k' hne (rpc' r₁ k' h₁).2 (rpc' r₂ k' h₂).2,
      fun r' k' c hr' => h.clm r' k' c (upd_eq_of_ne hr' nofun).2,
      fun k' hw => (upd_ne _ _ (un k' (.inr hw)).2).trans (h.wr k' hw),
      fun k' hu => h.live k' (un k' hu).1, fun k₁ k₂ h₁ h₂ => h.uniq k₁ k₂ (un k₁ h₁).1 (un k₂ h₂).1, h.nodup, h.old, h.outOk⟩

theorem pinv_reachable {s : PState} (h : PReachable s) : PInv s := by
  induction h with
  | init => constructor <;> simp [pinit, RPc.slot, PState.unclaimed]
  | step a _ hs ih => exact pinv_step ih hs

end RkVerif.C01
