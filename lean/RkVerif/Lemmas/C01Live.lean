/-
C01 §2 (Sched), liveness: a lexicographic progress measure that every internal step of the
enkiTS task-set path strictly decreases, and the absence of stuck states.
-/
import RkVerif.Lemmas.C01
namespace RkVerif.C01

def lt3 (a b : Nat × Nat × Nat) : Prop :=
  a.1 < b.1 ∨ (a.1 = b.1 ∧ (a.2.1 < b.2.1 ∨ (a.2.1 = b.2.1 ∧ a.2.2 < b.2.2)))

theorem lt3_wf : WellFounded lt3 :=
  Subrelation.wf (fun h => Prod.lex_def.2 (h.imp_right (And.imp_right Prod.lex_def.2)))
    (Prod.lex Nat.lt_wfRel (Prod.lex Nat.lt_wfRel Nat.lt_wfRel)).wf

def optLen : Option Part → Nat
  | some p => p.e - p.s
  | none => 0

def jobPot (j : Job) : Nat :=
  (if j.cont.isNone then 6 else 4) * ((j.e - j.s) + optLen j.pend) + 2 * optLen j.cont

def qPot (rtr : Nat → Nat) (p : Part) : Nat := (if rtr p.tid < p.e - p.s then 5 else 3) * (p.e - p.s)

def iPot (p : Part) : Nat := p.e - p.s

/-- Every outstanding index, weighed by where it is: 6 in the range of an activation started by
    `AddTaskSetToPipe`, 5 queued in a partition that will be split again, 4 in the range of an activation started by
    `TryRunTask`, 3 queued in a partition that runs as it is, 2 in `taskToRun`, 1 in flight.  Every move of an index
    goes down this list (a piece split off by a `TryRunTask` activation is at most `m_RangeToRun` long, so it is
    queued at 3, not 5); `take`, and the two steps that only retire an empty range, leave `phi1` as it is and
    decrease `phi2` or `phi3`. -/
def phi1 (s : State) : Nat := sumBy jobPot s.jobs + sumBy (qPot s.rtr) s.queued + sumBy iPot s.inflight
/-- the indices still to be split off: what `take` decreases -/
def phi2 (s : State) : Nat := sumBy (fun j => j.e - j.s) s.jobs
/-- what retiring an empty activation (2) or an empty in-flight partition (1) decreases -/
def phi3 (s : State) : Nat := 2 * s.jobs.length + s.inflight.length
def mu (s : State) : Nat × Nat × Nat := (phi1 s, phi2 s, phi3 s)

/-- the actions a scheduler thread takes on its own (everything except handing over a new task set) -/
def Act.internal : Act → Bool
  | .add .. => false
  | _ => true

/-- task sets are added with a minimum range of at least 1 (`ITaskSet::m_MinRange` defaults to 1 and
    `parallel_for_internal` never changes it) -/
def Act.ok : Act → Prop
  | .add _ mr _ _ => 1 ≤ mr
  | _ => True

theorem Act.ok_of_internal {a : Act} (h : a.internal = true) : a.ok := by
  cases a <;> simp_all [Act.internal, Act.ok]

/-- What the decrease of `mu` needs beyond `Inv`: nothing that moves is empty, and a `TryRunTask` activation
    splits by `m_RangeToRun`. -/
structure LInv (s : State) : Prop where
  /-- `m_RangeToRun ≥ 1` (from `m_MinRange ≥ 1`): a pipe-full run and a `pop` that splits take at least one index -/
  rtrPos : ∀ t, t < s.nsets → 1 ≤ s.rtr t
  /-- per activation: `rangeToSplit_ ≥ 1`, so `take` moves at least one index; the piece split off and `taskToRun`
      are not empty, so pushing or running them lowers `phi1`; an activation started by `TryRunTask` splits by
      `m_RangeToRun`, so its pieces are queued at weight 3 (they will not be split again), below its own weight 4 -/
  jobs : ∀ j ∈ s.jobs, 1 ≤ j.rts ∧
    (∀ p, j.pend = some p → p.s < p.e ∧ (j.cont ≠ none → p.e - p.s ≤ s.rtr j.tid)) ∧
    (∀ c, j.cont = some c → c.s < c.e) ∧ (j.cont ≠ none → j.rts = s.rtr j.tid)
  /-- queued partitions are not empty: a `pop` lowers `phi1` -/
  queued : ∀ q ∈ s.queued, q.s < q.e

theorem live_step {s s' : State} {a : Act} (h : s.Wf) (hl : LInv s) (hok : a.ok) (hs : step false s a = some s') :
    LInv s' ∧ (a.internal = true → lt3 (mu s') (mu s)) := by
  cases Step.of_step hs with
  | add sz mr np ni =>
    have hok : 1 ≤ mr := hok
    refine ⟨⟨fun t (ht : t < s.nsets + 1) => ?_, List.forall_mem_cons.2 ⟨⟨?_, nofun, nofun, nofun⟩, fun j hj => ?_⟩,
      hl.queued⟩, nofun⟩
    · show 1 ≤ upd s.rtr _ _ t
      by_cases e : t = s.nsets
      · rw [e, upd_same]; omega
      · rw [upd_ne _ _ e]; exact hl.rtrPos t (by omega)
    · show 1 ≤ max mr (sz / ni); omega
    · simp only [upd_ne s.rtr _ (Nat.ne_of_lt (h.jobs j hj).tid_lt)]
      exact hl.jobs j hj
  | @take k j rest hp hpn hne =>
    have j2 := ((pick_forall hp).1 h.jobs).1.le
    obtain ⟨⟨l1, -, l3, l4⟩, lrest⟩ := (pick_forall hp).1 hl.jobs
    -- the piece is not empty; it and the rest of the range have the length of the range
    have hP : 1 ≤ min j.rts (j.e - j.s) := by omega
    have hL := cut_len j.rts j2
    refine ⟨⟨hl.rtrPos, List.forall_mem_cons.2 ⟨⟨l1, fun p hp => ?_, l3, l4⟩, lrest⟩, hl.queued⟩,
      fun _ => Or.inr ⟨?_, Or.inl ?_⟩⟩
    · cases hp
      exact ⟨by simp only; omega, fun hco => by have := l4 hco; simp only; omega⟩
    · simp only [mu, phi1, pick_sum hp, sumBy, jobPot, optLen, hpn, Nat.add_sub_cancel_left, hL, Nat.add_zero]
    · simp only [mu, phi2, pick_sum hp, sumBy]
      omega
  | @push k j rest p hp hpe =>
    obtain ⟨⟨l1, l2, l3, l4⟩, lrest⟩ := (pick_forall hp).1 hl.jobs
    obtain ⟨q1, -, -⟩ := ((pick_forall hp).1 h.jobs).1.pend p hpe
    obtain ⟨p1, p2⟩ := l2 p hpe
    refine ⟨⟨hl.rtrPos, List.forall_mem_cons.2 ⟨⟨l1, nofun, l3, l4⟩, lrest⟩, List.forall_mem_cons.2 ⟨p1, hl.queued⟩⟩,
      fun _ => Or.inl ?_⟩
    cases hco : j.cont with
    | none =>
      simp only [mu, phi1, pick_sum hp, sumBy, jobPot, optLen, hpe, hco, qPot, Option.isNone_none, ↓reduceIte]
      split <;> omega
    | some c =>
      have := p2 (by simp [hco])
      simp only [mu, phi1, pick_sum hp, sumBy, jobPot, optLen, hpe, hco, qPot, q1, Option.isNone_some,
        Bool.false_eq_true, ↓reduceIte, Nat.not_lt.2 this]
      omega
  | @inline k j rest p hp hpe =>
    have hj := ((pick_forall hp).1 h.jobs).1
    obtain ⟨⟨l1, l2, l3, l4⟩, lrest⟩ := (pick_forall hp).1 hl.jobs
    obtain ⟨q1, q2, q3⟩ := hj.pend p hpe
    obtain ⟨p1, -⟩ := l2 p hpe
    have := hl.rtrPos j.tid hj.tid_lt
    rw [inlineAdjust_eq q2 q3]
    refine ⟨⟨hl.rtrPos, List.forall_mem_cons.2 ⟨⟨l1, nofun, l3, l4⟩, lrest⟩, hl.queued⟩, fun _ => Or.inl ?_⟩
    have hm := cut_le (s.rtr j.tid) q2
    -- the piece run inline is not empty; it and what goes back have the length of the pending piece, and what goes
    -- back and the old range have the length of the new range
    have hP : 1 ≤ min (s.rtr j.tid) (p.e - p.s) := by omega
    have hA := cut_len (s.rtr j.tid) q2
    have hB := Nat.sub_add_sub_cancel (q3 ▸ hj.le : p.e ≤ j.e) hm
    cases hco : j.cont <;>
      simp only [mu, phi1, pick_sum hp, sumBy, jobPot, optLen, hpe, hco, iPot, ← q3, Option.isNone_none,
        Option.isNone_some, Bool.false_eq_true, ↓reduceIte, Nat.add_sub_cancel_left] <;> omega
  | @addDone k j rest hp hpn he hco =>
    refine ⟨⟨hl.rtrPos, ((pick_forall hp).1 hl.jobs).2, hl.queued⟩, fun _ => Or.inr ⟨?_, Or.inr ⟨?_, ?_⟩⟩⟩
    · simp only [mu, phi1, pick_sum hp, jobPot, optLen, hpn, hco, he, Option.isNone_none, ↓reduceIte]
      omega
    · simp only [mu, phi2, pick_sum hp, he]
      omega
    · simp only [mu, phi3, pick_length hp]
      omega
  | @popDone k j rest c hp hpn he hco =>
    obtain ⟨⟨-, -, l3, -⟩, lrest⟩ := (pick_forall hp).1 hl.jobs
    have := l3 c hco
    refine ⟨⟨hl.rtrPos, lrest, hl.queued⟩, fun _ => Or.inl ?_⟩
    simp only [mu, phi1, pick_sum hp, sumBy, jobPot, optLen, hpn, hco, he, iPot]
    omega
  | @popSplit k q rest hp hc =>
    have := hl.rtrPos q.tid ((pick_forall hp).1 h.queued).1.tid_lt
    refine ⟨⟨hl.rtrPos, List.forall_mem_cons.2 ⟨⟨this, nofun, fun c hc => by cases hc; simp only; omega, fun _ => rfl⟩, hl.jobs⟩,
      ((pick_forall hp).1 hl.queued).2⟩, fun _ => Or.inl ?_⟩
    simp only [mu, phi1, pick_sum hp, sumBy, jobPot, optLen, qPot, hc, Option.isNone_some, Bool.false_eq_true, ↓reduceIte]
    omega
  | @popRun k q rest hp hc =>
    obtain ⟨lq, lrest⟩ := (pick_forall hp).1 hl.queued
    refine ⟨⟨hl.rtrPos, hl.jobs, lrest⟩, fun _ => Or.inl ?_⟩
    simp only [mu, phi1, pick_sum hp, sumBy, qPot, hc, iPot, ↓reduceIte]
    omega
  | @exec k p rest hp hlt =>
    refine ⟨⟨hl.rtrPos, hl.jobs, hl.queued⟩, fun _ => Or.inl ?_⟩
    simp only [mu, phi1, pick_sum hp, sumBy, iPot]
    omega
  | @finish k p rest hp hle =>
    refine ⟨⟨hl.rtrPos, hl.jobs, hl.queued⟩, fun _ => Or.inr ⟨?_, Or.inr ⟨rfl, ?_⟩⟩⟩
    · simp only [mu, phi1, pick_sum hp, iPot]
      omega
    · simp only [mu, phi3, pick_length hp]
      omega

/-- reachable states when every task set is handed over with `m_MinRange ≥ 1` -/
inductive ReachableOk : State → Prop where
  | init : ReachableOk init
  | step {s s' : State} (a : Act) : ReachableOk s → a.ok → step false s a = some s' → ReachableOk s'

theorem reachable_of_ok {s : State} (h : ReachableOk s) : Reachable s := by
  induction h with
  | init => exact Reachable.init
  | step a _ _ hs ih => exact Reachable.step a ih hs

theorem linv_reachable {s : State} (h : ReachableOk s) : LInv s := by
  induction h with
  | init => constructor <;> simp [init]
  | step a hr hok hs ih => exact (live_step (inv_reachable (reachable_of_ok hr)).wf ih hok hs).1

theorem progress (s : State) (hne : s.jobs ≠ [] ∨ s.queued ≠ [] ∨ s.inflight ≠ []) :
    ∃ a, a.internal = true ∧ (step false s a).isSome = true := by
  cases hi : s.inflight with
  | cons p rest =>
    by_cases hc : p.s < p.e
    · exact ⟨.exec 0, rfl, by simp [step, hi, pick, hc]⟩
    · exact ⟨.finish 0, rfl, by simp [step, hi, pick, hc]⟩
  | nil =>
    cases hq : s.queued with
    | cons q rest => exact ⟨.pop 0, rfl, by simp only [step, hq, pick]; split <;> rfl⟩
    | nil =>
      cases hj : s.jobs with
      | nil => simp [hi, hq, hj] at hne
      | cons j rest =>
        cases hp : j.pend with
        | some p => exact ⟨.push 0, rfl, by simp [step, hj, pick, hp]⟩
        | none =>
          by_cases hc : j.s = j.e
          · exact ⟨.jobDone 0, rfl, by simp only [step, hj, pick, hp, hc]; cases j.cont <;> rfl⟩
          · exact ⟨.take 0, rfl, by simp [step, hj, pick, hp, hc, splitTask]⟩

end RkVerif.C01
