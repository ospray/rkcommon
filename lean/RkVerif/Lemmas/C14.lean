/- The `size_t` arithmetic of the guard chain and of ALIGN_PTR, and the invariants of one vector in a heap
   (`VInv`, with the shape `StepOK` every operation's result has) and of the pair (`Inv`). -/
import RkVerif.Model.C14
namespace RkVerif.C14

variable {V : Type}

theorem W_eq : W = 2 ^ 64 := by decide
theorem W_pos : 0 < W := by decide

theorem le_maxSize_iff {sz : Nat} (hsz : 0 < sz) (n : Nat) : n ≤ maxSize sz ↔ n * sz < W := by
  rw [maxSize, Nat.le_div_iff_mul_le hsz]; have := W_pos; omega

/-- The guard chain with its overflow test read on the mathematical product: the `size_t` product is only
    formed when it does not wrap. -/
theorem allocGuard_eq (A : Nat) {sz : Nat} (hsz : 0 < sz) (n : Nat) :
    allocGuard A sz n =
      if n = 0 then .null else if W ≤ n * sz then .lengthError else .request (n * sz) A := by
  unfold allocGuard
  split
  · rfl
  · by_cases h : n * sz < W
    · rw [if_neg (Nat.not_lt.mpr ((le_maxSize_iff hsz n).mpr h)), if_neg (Nat.not_le.mpr h), Nat.mod_eq_of_lt h]
    · rw [if_pos (Nat.lt_of_not_le (mt (le_maxSize_iff hsz n).mp h)), if_pos (Nat.le_of_not_lt h)]

theorem ceil_mul_spec (p : Nat) {a : Nat} (ha : 0 < a) :
    (p + a - 1) / a * a % a = 0 ∧ p ≤ (p + a - 1) / a * a ∧ (p + a - 1) / a * a < p + a ∧
    ∀ m, m % a = 0 → p ≤ m → (p + a - 1) / a * a ≤ m := by
  have hdm := Nat.div_add_mod (p + a - 1) a
  have hlt := Nat.mod_lt (p + a - 1) ha
  rw [Nat.mul_comm] at hdm
  refine ⟨Nat.mul_mod_left _ _, by omega, by omega, fun m hm hpm => ?_⟩
  -- `m = m / a * a`, and `(p + a - 1) / a ≤ m / a` because `p + a - 1 < (m / a + 1) * a`
  rw [← Nat.div_mul_cancel (Nat.dvd_of_mod_eq_zero hm)]
  refine Nat.mul_le_mul_right a (Nat.le_of_lt_succ ((Nat.div_lt_iff_lt_mul ha).mpr ?_))
  rw [Nat.succ_mul, Nat.div_mul_cancel (Nat.dvd_of_mod_eq_zero hm)]; omega

/-- Masking with `2^n - 2^k` (for `n = 64`: with `-(2^k)`) clears the low `k` bits. -/
theorem and_neg_two_pow {x k n : Nat} (hk : k ≤ n) (hx : x < 2 ^ n) :
    x &&& (2 ^ n - 2 ^ k) = x / 2 ^ k * 2 ^ k := by
  -- the mask is `2 ^ (n - k) - 1` shifted up by `k`: its low part is zero, its high part keeps `x / 2 ^ k`
  have e : 2 ^ n - 2 ^ k = (2 ^ (n - k) - 1) * 2 ^ k := by
    rw [Nat.sub_mul, ← Nat.pow_add, Nat.one_mul, Nat.sub_add_cancel hk]
  have hlo : (x &&& (2 ^ n - 2 ^ k)) % 2 ^ k = 0 := by
    rw [Nat.and_mod_two_pow, e, Nat.mul_mod_left, Nat.and_zero]
  have hhi : (x &&& (2 ^ n - 2 ^ k)) / 2 ^ k = x / 2 ^ k := by
    rw [Nat.and_div_two_pow, e, Nat.mul_div_cancel _ (Nat.pow_pos (by decide))]
    exact Nat.and_two_pow_sub_one_of_lt_two_pow
      (Nat.div_lt_of_lt_mul (by rwa [← Nat.pow_add, Nat.add_sub_cancel' hk]))
  rw [← hhi]
  exact (Nat.div_mul_cancel (Nat.dvd_of_mod_eq_zero hlo)).symm

theorem alignPtr_two_pow {p k : Nat} (hk : k < 64) (hp : p + 2 ^ k - 1 < W) :
    alignPtr p (2 ^ k) = (p + 2 ^ k - 1) / 2 ^ k * 2 ^ k := by
  have haW : 2 ^ k < W := by rw [W_eq]; exact Nat.pow_lt_pow_right (by decide) hk
  have hpos : 0 < 2 ^ k := Nat.pow_pos (by decide)
  have hx : (p + 2 ^ k + (W - 1)) % W = p + 2 ^ k - 1 := by
    rw [show p + 2 ^ k + (W - 1) = (p + 2 ^ k - 1) + W by omega, Nat.add_mod_right, Nat.mod_eq_of_lt hp]
  rw [alignPtr, hx, Nat.mod_eq_of_lt haW, Nat.mod_eq_of_lt (by omega), W_eq]
  exact and_neg_two_pow (Nat.le_of_lt hk) (W_eq ▸ hp)

theorem Apart.symm {x y : Ext} (h : Apart x y) : Apart y x :=
  ⟨fun e => h.1 e.symm, h.2.symm⟩

def extOf (c : Cfg) : Vec V → List Ext
  | none => []
  | some b => [⟨b.addr, b.cap * c.sz⟩]

def WfV (c : Cfg) : Vec V → Prop
  | none => True
  | some b => b.addr ≠ 0 ∧ b.addr % c.A = 0 ∧ 0 < b.cap ∧ b.cells.length ≤ b.cap ∧ b.addr + b.cap * c.sz ≤ W

/-- Invariant of one vector in a heap whose other live blocks are `F` (the frame). -/
structure VInv (c : Cfg) (s : VS V) (F : List Ext) : Prop where
  nofault : s.fault = false
  wf : WfV c s.v
  perm : s.live.Perm (extOf c s.v ++ F)
  apart : s.live.Pairwise Apart

theorem WfV.data_spec {c : Cfg} {v : Vec V} (h : WfV c v) :
    v.data % c.A = 0 ∧ (v.data = 0 ↔ v.cap = 0) ∧ v.size ≤ v.cap := by
  cases v with
  | none => exact ⟨Nat.zero_mod _, Iff.rfl, Nat.le_refl _⟩
  | some b => exact ⟨h.2.1, ⟨fun e => absurd e h.1, fun e => absurd e (Nat.ne_of_gt h.2.2.1)⟩, h.2.2.2.1⟩

theorem contents_length (v : Vec V) : v.contents.length = v.size := by
  cases v <;> rfl

theorem free_owned {c : Cfg} {live : List Ext} {v : Vec V} {F : List Ext}
    (wf : WfV c v) (hp : live.Perm (extOf c v ++ F)) (ha : live.Pairwise Apart) :
    ∃ L, free live v.data = (L, false) ∧ L.Perm F ∧ L.Pairwise Apart := by
  cases v with
  | none => exact ⟨live, if_pos rfl, hp, ha⟩
  | some b =>
    have hp' : live.Perm (⟨b.addr, b.cap * c.sz⟩ :: F) := hp
    have hany : live.any (·.addr == b.addr) = true :=
      List.any_eq_true.mpr ⟨_, hp'.symm.subset List.mem_cons_self, beq_self_eq_true _⟩
    -- the frame is apart from the block, so the filter removes the block and nothing else
    have hF : ∀ f ∈ F, (!(f.addr == b.addr)) = true := fun f hf => by
      simpa using Ne.symm ((List.pairwise_cons.mp (hp'.pairwise ha Apart.symm)).1 f hf).1
    refine ⟨live.filter (fun e => !(e.addr == b.addr)), by simp [free, Vec.data, wf.1, hany], ?_, ha.filter _⟩
    have := hp'.filter (fun e => !(e.addr == b.addr))
    rwa [List.filter_cons, beq_self_eq_true, Bool.not_true, if_neg Bool.false_ne_true,
      List.filter_eq_self.mpr hF] at this

theorem fresh_error {c : Cfg} {live : List Ext} {n : Nat} {cells : Unit → List V} {o : Outcome}
    (h : fresh c live n cells = .error o) : o ≠ .ok ∧ (o = .lengthError → maxSize c.sz < n) := by
  unfold fresh allocGuard at h
  by_cases h0 : n = 0
  · rw [if_pos h0] at h; cases h
  · rw [if_neg h0] at h
    by_cases hm : n > maxSize c.sz
    · rw [if_pos hm] at h; cases h
      exact ⟨nofun, fun _ => hm⟩
    · rw [if_neg hm] at h
      dsimp only at h
      split at h
      · cases h; exact ⟨nofun, nofun⟩
      · cases h

theorem regrow_lengthError {c : Cfg} {s : VS V} {n : Nat} {cells : Unit → List V}
    (h : (regrow c s n cells).2 = .lengthError) : maxSize c.sz < n := by
  unfold regrow at h
  cases hf : fresh c s.live n cells with
  | error o => rw [hf] at h; exact (fresh_error hf).2 h
  | ok r => rw [hf] at h; cases h

theorem fresh_eq (c : Cfg) (hsz : 0 < c.sz) (live : List Ext) (n : Nat) (cells : Unit → List V) :
    fresh c live n cells =
      if n = 0 then .ok (live, none, decide ((cells ()).length > 0))
      else if W ≤ n * c.sz then .error .lengthError
      else match c.sys live (n * c.sz) c.A with
        | none => .error .badAlloc
        | some p => .ok (⟨p, n * c.sz⟩ :: live, some ⟨p, n, cells ()⟩, decide ((cells ()).length > n)) := by
  rw [fresh, allocGuard_eq _ hsz]
  by_cases h0 : n = 0
  · rw [if_pos h0, if_pos h0]
  · rw [if_neg h0, if_neg h0]
    by_cases h1 : W ≤ n * c.sz
    · rw [if_pos h1, if_pos h1]
    · rw [if_neg h1, if_neg h1]; rfl

theorem fresh_ok {c : Cfg} (hs : SysOK c.sys) (hA : 0 < c.A) (hsz : 0 < c.sz)
    {live : List Ext} {n : Nat} {cells : Unit → List V} (hlen : (cells ()).length ≤ n)
    (ha : live.Pairwise Apart) {live1 : List Ext} {v1 : Vec V} {f1 : Bool}
    (h : fresh c live n cells = .ok (live1, v1, f1)) :
    f1 = false ∧ WfV c v1 ∧ live1 = extOf c v1 ++ live ∧ live1.Pairwise Apart ∧ v1.contents = cells () := by
  rw [fresh_eq c hsz] at h
  split at h
  · cases h
    subst n
    exact ⟨decide_eq_false (by omega), trivial, rfl, ha, (List.length_eq_zero_iff.mp (by omega)).symm⟩
  · split at h
    · cases h
    · split at h
      · cases h
      · rename_i p hsys
        cases h
        obtain ⟨p0, pa, pw, pap⟩ := hs live (n * c.sz) c.A p hA hsys
        exact ⟨decide_eq_false (by omega), ⟨p0, pa, Nat.pos_of_ne_zero ‹_›, hlen, pw⟩, rfl, List.pairwise_cons.mpr ⟨pap, ha⟩,
          rfl⟩

/-- What every operation of one vector owes: `r` is the result (new state, outcome) of a step from `s`, `new` the
    elements the vector holds if it succeeds. -/
structure StepOK (c : Cfg) (s : VS V) (F : List Ext) (new : List V) (r : VS V × Outcome) : Prop where
  inv : VInv c r.1 F
  contents : r.2 = .ok → r.1.v.contents = new
  failed : r.2 ≠ .ok → r.1 = s

section
variable {c : Cfg} {s : VS V} {F : List Ext}

theorem StepOK.same (inv : VInv c s F) : StepOK c s F s.v.contents (s, .ok) :=
  ⟨inv, fun _ => rfl, fun _ => rfl⟩

theorem StepOK.fail (inv : VInv c s F) {o : Outcome} (ho : o ≠ .ok) {new : List V} : StepOK c s F new (s, o) :=
  ⟨inv, fun h => absurd h ho, fun _ => rfl⟩

/-- an operation that reports success whatever happened, and keeps the elements in either case (shrink_to_fit) -/
theorem StepOK.swallow {r : VS V × Outcome} (h : StepOK c s F s.v.contents r) :
    StepOK c s F s.v.contents (r.1, .ok) := by
  refine ⟨h.inv, fun _ => ?_, nofun⟩
  by_cases ho : r.2 = .ok
  · exact h.contents ho
  · exact congrArg (·.v.contents) (h.failed ho)

theorem StepOK.of_inPlace (inv : VInv c s F) {cells : List V} (hlen : cells.length ≤ s.v.cap) :
    StepOK c s F cells (inPlace s cells, .ok) := by
  obtain ⟨nf, wf, hp, ha⟩ := inv
  unfold inPlace
  cases hv : s.v with
  | none =>
    rw [hv] at hlen wf hp
    cases List.length_eq_zero_iff.mp (Nat.le_zero.mp hlen)
    exact ⟨⟨by simp [nf], wf, hp, ha⟩, fun _ => rfl, nofun⟩
  | some b =>
    rw [hv] at hlen wf hp
    have hlen : cells.length ≤ b.cap := hlen
    exact ⟨⟨by simp [nf, Nat.not_lt.mpr hlen], ⟨wf.1, wf.2.1, wf.2.2.1, hlen, wf.2.2.2.2⟩, hp, ha⟩, fun _ => rfl, nofun⟩

theorem StepOK.of_regrow (hs : SysOK c.sys) (hA : 0 < c.A) (hsz : 0 < c.sz)
    (inv : VInv c s F) {n : Nat} {cells : Unit → List V} (hlen : (cells ()).length ≤ n) :
    StepOK c s F (cells ()) (regrow c s n cells) := by
  unfold regrow
  cases hf : fresh c s.live n cells with
  | error o => exact .fail inv (fresh_error hf).1
  | ok r =>
    obtain ⟨live1, v1, f1⟩ := r
    obtain ⟨hf1, wf1, hl1, hap1, hc1⟩ := fresh_ok hs hA hsz hlen inv.apart hf
    -- the old storage is still owned: live1 ~ extOf old ++ (extOf new ++ F)
    have hperm : live1.Perm (extOf c s.v ++ (extOf c v1 ++ F)) :=
      hl1 ▸ (inv.perm.append_left _).trans (List.perm_append_comm_assoc ..)
    obtain ⟨L, hfree, hLp, hLa⟩ := free_owned inv.wf hperm hap1
    simp only [hfree]
    exact ⟨⟨by simp [inv.nofault, hf1], wf1, hLp, hLa⟩, fun _ => hc1, nofun⟩

theorem StepOK.of_growTo (hs : SysOK c.sys) (hg : GrowOK c) (hA : 0 < c.A) (hsz : 0 < c.sz)
    (inv : VInv c s F) {extra : Nat} (he : 0 < extra) {cells : Unit → List V}
    (hlen : (cells ()).length = s.v.size + extra) : StepOK c s F (cells ()) (growTo c s extra cells) := by
  unfold growTo
  split
  · exact .fail inv (by decide)
  · have := hg s.v.size extra
    exact .of_regrow hs hA hsz inv (by rw [hlen]; apply Nat.le_min.mpr; omega)

end

theorem copyCells_take (l : List V) (n : Nat) : copyCells l n = l.take n := by
  induction n with
  | zero => simp [copyCells]
  | succ k ih =>
    unfold copyCells at *
    rw [List.range_succ, List.filterMap_append, ih, List.take_add_one]
    congr 1

theorem copyCells_self (l : List V) : copyCells l l.length = l := by
  rw [copyCells_take, List.take_length]

theorem vstep_spec {c : Cfg} (hs : SysOK c.sys) (hg : GrowOK c) (hA : 0 < c.A) (hsz : 0 < c.sz)
    (s : VS V) (F : List Ext) (inv : VInv c s F) (op : VOp V) :
    StepOK c s F (specStep s.v.contents op) (vstep c s op) := by
  have hsc := inv.wf.data_spec.2.2
  have hcl := contents_length s.v
  have hcopy : copyCells s.v.contents s.v.size = s.v.contents := by rw [← hcl]; exact copyCells_self _
  cases op with
  | push x =>
    simp only [vstep, specStep, hcopy]
    split
    · exact .of_inPlace inv (by rw [List.length_append, hcl]; exact ‹s.v.size < s.v.cap›)
    · exact .of_growTo hs hg hA hsz inv (cells := fun _ => _) Nat.one_pos (by rw [List.length_append, hcl]; rfl)
  | pop =>
    simp only [vstep, specStep]
    exact .of_inPlace inv (by rw [List.length_dropLast, hcl]; omega)
  | resize n x =>
    simp only [vstep, specStep, hcopy, hcl]
    split
    · exact .of_inPlace inv (by rw [List.length_take, hcl]; omega)
    · split
      · exact .of_inPlace inv (by rw [List.length_append, List.length_replicate, hcl]; omega)
      · exact .of_growTo hs hg hA hsz inv (cells := fun _ => _) (by omega)
          (by rw [List.length_append, List.length_replicate, hcl])
  | reserve n =>
    simp only [vstep, specStep, hcopy]
    split
    · exact .fail inv (by decide)
    · split
      · exact .same inv
      · exact .of_regrow hs hA hsz inv (cells := fun _ => _) (by rw [hcl]; omega)
  | shrink =>
    simp only [vstep, specStep, hcopy]
    split
    · exact .same inv
    · exact .swallow (.of_regrow hs hA hsz inv (cells := fun _ => _) (Nat.le_of_eq hcl))
  | assign n x =>
    simp only [vstep, specStep]
    split
    · exact .of_inPlace inv (by rw [List.length_replicate]; exact ‹n ≤ s.v.cap›)
    · split
      · exact .fail inv (by decide)
      · exact .of_regrow hs hA hsz inv (cells := fun _ => _) (Nat.le_of_eq List.length_replicate)
  | copyFrom other =>
    simp only [vstep, specStep, copyCells_self]
    split
    · exact .of_inPlace inv ‹_›
    · exact .of_regrow hs hA hsz inv (cells := fun _ => _) (Nat.le_refl _)
  | clear =>
    simp only [vstep, specStep]
    exact .of_inPlace inv (Nat.zero_le _)
  | insert i x =>
    simp only [vstep, specStep, hcl]
    split
    · exact .same inv
    · have hlen : (s.v.contents.take i ++ x :: s.v.contents.drop i).length = s.v.size + 1 := by
        rw [List.length_append, List.length_cons, List.length_take, List.length_drop, hcl]; omega
      split
      · exact .of_inPlace inv (by rw [hlen]; exact ‹s.v.size < s.v.cap›)
      · rw [hcopy, copyCells_take]
        exact .of_growTo hs hg hA hsz inv (cells := fun _ => _) Nat.one_pos hlen
  | erase i =>
    simp only [vstep, specStep]
    exact .of_inPlace inv (by have := List.length_eraseIdx_le s.v.contents i; omega)
  | set i x =>
    simp only [vstep, specStep]
    exact .of_inPlace inv (by rw [List.length_set, hcl]; exact hsc)
  | release =>
    obtain ⟨L, hfree, hLp, hLa⟩ := free_owned inv.wf inv.perm inv.apart
    simp only [vstep, specStep, hfree]
    exact ⟨⟨by simp [inv.nofault], trivial, hLp, hLa⟩, fun _ => rfl, nofun⟩

structure Inv (c : Cfg) (s : St V) : Prop where
  nofault : s.fault = false
  wfa : WfV c s.a
  wfb : WfV c s.b
  perm : s.live.Perm (extOf c s.a ++ extOf c s.b)
  apart : s.live.Pairwise Apart

theorem Inv.wf_get {c : Cfg} {s : St V} (inv : Inv c s) (k : Bool) : WfV c (s.get k) := by
  cases k
  · exact inv.wfa
  · exact inv.wfb

def St.contents (s : St V) : List V × List V := (s.a.contents, s.b.contents)

theorem onVec_false (c : Cfg) (s : St V) (op : VOp V) :
    onVec c s false op =
      (⟨(vstep c ⟨s.live, s.a, s.fault⟩ op).1.live, (vstep c ⟨s.live, s.a, s.fault⟩ op).1.v, s.b,
        (vstep c ⟨s.live, s.a, s.fault⟩ op).1.fault⟩, (vstep c ⟨s.live, s.a, s.fault⟩ op).2) := rfl

theorem onVec_true (c : Cfg) (s : St V) (op : VOp V) :
    onVec c s true op =
      (⟨(vstep c ⟨s.live, s.b, s.fault⟩ op).1.live, s.a, (vstep c ⟨s.live, s.b, s.fault⟩ op).1.v,
        (vstep c ⟨s.live, s.b, s.fault⟩ op).1.fault⟩, (vstep c ⟨s.live, s.b, s.fault⟩ op).2) := rfl

/-- An operation on vector `k` sees the other vector's storage as its frame. -/
theorem onVec_spec {c : Cfg} (hs : SysOK c.sys) (hg : GrowOK c) (hA : 0 < c.A) (hsz : 0 < c.sz)
    {s : St V} (inv : Inv c s) (k : Bool) (op : VOp V) :
    Inv c (onVec c s k op).1 ∧
    (onVec c s k op).1.contents =
      (if (onVec c s k op).2 = .ok then
        (if k then (s.a.contents, specStep s.b.contents op) else (specStep s.a.contents op, s.b.contents))
      else s.contents) ∧
    ((onVec c s k op).2 ≠ .ok → (onVec c s k op).1 = s) := by
  cases k with
  | false =>
    have h := vstep_spec hs hg hA hsz ⟨s.live, s.a, s.fault⟩ _ ⟨inv.nofault, inv.wfa, inv.perm, inv.apart⟩ op
    rw [onVec_false]
    generalize vstep c ⟨s.live, s.a, s.fault⟩ op = r at h ⊢
    obtain ⟨⟨n1, n2, n3, n4⟩, h2, h3⟩ := h
    refine ⟨⟨n1, n2, inv.wfb, n3, n4⟩, ?_, fun ho => by rw [h3 ho]⟩
    split
    · exact congrArg (·, s.b.contents) (h2 ‹_›)
    · rw [h3 ‹_›]
  | true =>
    have h := vstep_spec hs hg hA hsz ⟨s.live, s.b, s.fault⟩ _
      ⟨inv.nofault, inv.wfb, inv.perm.trans List.perm_append_comm, inv.apart⟩ op
    rw [onVec_true]
    generalize vstep c ⟨s.live, s.b, s.fault⟩ op = r at h ⊢
    obtain ⟨⟨n1, n2, n3, n4⟩, h2, h3⟩ := h
    refine ⟨⟨n1, inv.wfa, n2, n3.trans List.perm_append_comm, n4⟩, ?_, fun ho => by rw [h3 ho]⟩
    split
    · exact congrArg (s.a.contents, ·) (h2 ‹_›)
    · rw [h3 ‹_›]

theorem step_spec {c : Cfg} (hs : SysOK c.sys) (hg : GrowOK c) (hA : 0 < c.A) (hsz : 0 < c.sz)
    {s : St V} (inv : Inv c s) (op : Op V) :
    Inv c (step c s op).1 ∧ (step c s op).1.contents = specOp c s s.contents op ∧
      ((step c s op).2 ≠ .ok → (step c s op).1 = s) := by
  -- `specOp` matches on `k`; for each value `onVec_spec` states what is wanted, up to unfolding
  cases op with
  | on k o => cases k <;> exact onVec_spec hs hg hA hsz inv _ o
  | copyAssign k => cases k <;> exact onVec_spec hs hg hA hsz inv _ _
  | swap => exact ⟨⟨inv.nofault, inv.wfb, inv.wfa, inv.perm.trans List.perm_append_comm, inv.apart⟩, rfl, nofun⟩

theorem runR_spec {c : Cfg} (hs : SysOK c.sys) (hg : GrowOK c) (hA : 0 < c.A) (hsz : 0 < c.sz)
    (hist : List (Op V)) : Inv c (runR c hist) ∧ (runR c hist).contents = specR c hist := by
  induction hist with
  | nil => exact ⟨⟨rfl, trivial, trivial, .refl _, .nil⟩, rfl⟩
  | cons op earlier ih =>
    obtain ⟨h1, h2, -⟩ := step_spec hs hg hA hsz ih.1 op
    exact ⟨h1, h2.trans (congrArg (specOp c _ · op) ih.2)⟩

end RkVerif.C14
