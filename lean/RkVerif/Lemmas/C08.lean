/-
The invariants of the C08 transition system and their preservation by every atomic step.

`Inv`: the counter of every object is the number of counted references to it (`refsTo`), and liveness
flag and destructor log are functions of the counter.  A step first moves references between handles,
locals and raw pointers without touching a counter, then performs at most one `refInc()` or
`refDec()`; `good_same`, `good_inc`, `good_release` are these three cases and `exec_good` sorts every
step into one of them.  `GInv` adds what the other property theorems need: the shape of every
thread (`ThrOK`), distinct addresses of live objects (`AddrInv`), no stale handle (`NoStale`).
-/
import RkVerif.Lemmas.C08Prim

namespace RkVerif.C08

structure ObjOK (s : State) (o : Nat) : Prop where
  cnt : countOf s o = (refsTo s o : Int)
  alive : aliveOf s o = decide (0 < countOf s o)
  destroyed : destroyedOf s o = if o < s.objs.length ∧ countOf s o = 0 then 1 else 0

def Inv (s : State) : Prop := ∀ o, ObjOK s o

theorem Inv.countOf_pos {s : State} (hI : Inv s) {v : Nat} (hv : 0 < refsTo s v) : 0 < countOf s v := by
  rw [(hI v).cnt]; omega

theorem Inv.lt_of_refs {s : State} (hI : Inv s) {v : Nat} (hv : 0 < refsTo s v) : v < s.objs.length :=
  Nat.lt_of_not_le fun h' => by have := hI.countOf_pos hv; rw [countOf_ge h'] at this; omega

theorem Inv.live {s : State} (hI : Inv s) {v : Nat} (hv : 0 < countOf s v) :
    aliveOf s v = true ∧ destroyedOf s v = 0 :=
  ⟨by rw [(hI v).alive]; exact decide_eq_true hv, by rw [(hI v).destroyed, if_neg (by omega)]⟩

theorem objOK_same {s s' : State} {o : Nat} (h : ObjOK s o)
    (hc : countOf s' o = countOf s o) (hr : refsTo s' o = refsTo s o)
    (ha : aliveOf s' o = aliveOf s o) (hd : destroyedOf s' o = destroyedOf s o)
    (hl : o < s'.objs.length ↔ o < s.objs.length) : ObjOK s' o :=
  ⟨by rw [hc, hr]; exact h.cnt, by rw [ha, hc]; exact h.alive, by simp only [hd, hc, hl]; exact h.destroyed⟩

/-- What the part of a step that only moves references (stores into handles, pushes and pops
    locals, books raw references) leaves alone; `s1` in `good_same`, `good_inc`, `good_release` is the
    state after that part. -/
structure SameObs (s1 s : State) : Prop where
  c : ∀ o, countOf s1 o = countOf s o
  a : ∀ o, aliveOf s1 o = aliveOf s o
  d : ∀ o, destroyedOf s1 o = destroyedOf s o
  l : s1.objs.length = s.objs.length

theorem SameObs.of_objs {s1 s : State} (h : s1.objs = s.objs) : SameObs s1 s := by
  cases s; cases s1; cases h; exact ⟨fun _ => rfl, fun _ => rfl, fun _ => rfl, rfl⟩

structure Rel (s s' : State) (o : Nat) : Prop where
  touch_alive : countOf s' o ≠ countOf s o → o < s.objs.length → 0 < countOf s o
  destroyed : destroyedOf s' o =
    destroyedOf s o + if 0 < countOf s o ∧ countOf s' o = 0 then 1 else 0

/-- `Rel` goes along with the invariant because `destroy_once` and `no_touch_after_destroy` speak of
    single transitions: they are read from its two fields. -/
def Good (s s' : State) : Prop := Inv s' ∧ ∀ o, Rel s s' o

theorem good_of_one {s s' : State} {v : Nat} (hI : Inv s) (hv : 0 < countOf s v)
    (hl : s'.objs.length = s.objs.length)
    (hoth : ∀ o, v ≠ o → countOf s' o = countOf s o ∧ refsTo s' o = refsTo s o ∧
      aliveOf s' o = aliveOf s o ∧ destroyedOf s' o = destroyedOf s o)
    (hv' : ObjOK s' v) : Good s s' := by
  refine ⟨fun o => ?_, fun o => ?_⟩ <;> by_cases hvo : v = o
  · exact hvo ▸ hv'
  · obtain ⟨h1, h2, h3, h4⟩ := hoth o hvo
    exact objOK_same (hI o) h1 h2 h3 h4 (by rw [hl])
  · subst hvo
    have hlt : v < s'.objs.length := Nat.lt_of_not_le fun h' => by rw [hl] at h'; rw [countOf_ge h'] at hv; omega
    exact ⟨fun _ _ => hv, by rw [hv'.destroyed, (hI.live hv).2]; simp [hv, hlt]⟩
  · obtain ⟨h1, -, -, h4⟩ := hoth o hvo
    exact ⟨fun h => absurd h1 h, by rw [h4, h1, if_neg (by omega)]; rfl⟩

theorem good_same {s s1 : State} (hI : Inv s) (ho : SameObs s1 s) (hr : ∀ o, refsTo s1 o = refsTo s o) : Good s s1 :=
  ⟨fun o => objOK_same (hI o) (ho.c o) (hr o) (ho.a o) (ho.d o) (by rw [ho.l]),
   fun o => ⟨fun h => absurd (ho.c o) h, by rw [ho.d, ho.c, if_neg (by omega)]; rfl⟩⟩

theorem good_inc {s s1 : State} {v : Nat} (hI : Inv s) (hv : 0 < refsTo s v) (ho : SameObs s1 s)
    (hr : ∀ o, refsTo s1 o = refsTo s o + (if v = o then 1 else 0)) : Good s (incCount s1 v) := by
  have hcv := hI.countOf_pos hv
  have hl := hI.live hcv
  have hc : countOf (incCount s1 v) v = countOf s v + 1 := by
    simp [countOf_incCount, ho.l ▸ hI.lt_of_refs hv, ho.c]
  refine good_of_one hI hcv (by simp [ho.l]) (fun o hvo => ?_) ⟨?_, ?_, ?_⟩
  · simp [countOf_incCount, refsTo_incCount, hr, hvo, ho.c, ho.a, ho.d]
  · rw [hc, refsTo_incCount, hr, (hI v).cnt]; simp
  · rw [hc, aliveOf_incCount, ho.a, hl.1]; simp; omega
  · rw [hc, destroyedOf_incCount, ho.d, hl.2, if_neg (by omega)]

theorem good_release {s s1 : State} {t v : Nat} (hI : Inv s) (ho : SameObs s1 s)
    (hr : ∀ o, refsTo s1 o + (if v = o then 1 else 0) = refsTo s o) : Good s (release s1 t v) := by
  have hrv := hr v
  simp only [if_true] at hrv
  have hv : 0 < refsTo s v := by omega
  have hcv := hI.countOf_pos hv
  have hl := hI.live hcv
  have hlt := hI.lt_of_refs hv
  have hc : countOf (release s1 t v) v = countOf s v - 1 := by
    simp [countOf_release, ho.l ▸ hlt, ho.c]
  refine good_of_one hI hcv (by simp [ho.l]) (fun o hvo => ?_) ⟨?_, ?_, ?_⟩
  · have h := hr o
    rw [if_neg hvo] at h
    simp [countOf_release, refsTo_release, aliveOf_release, destroyedOf_release, ho.c, ho.a, ho.d, hvo, ← h]
  · rw [hc, refsTo_release, (hI v).cnt]; omega
  · rw [hc, aliveOf_release, ho.a, ho.c, hl.1]; by_cases h1 : countOf s v = 1 <;> simp [h1]; omega
  · rw [hc, destroyedOf_release, ho.d, ho.c, hl.2, release_length, ho.l]
    by_cases h1 : countOf s v = 1 <;> simp [h1, hlt]; omega

theorem good_incOpt {s s1 : State} {k : Option Nat} (hI : Inv s) (hk : ∀ v, k = some v → 0 < refsTo s v)
    (ho : SameObs s1 s) (hr : ∀ o, refsTo s1 o = refsTo s o + rcnt o k) : Good s (incOpt s1 k) := by
  cases k with
  | none => exact (good_same hI ho (by simpa [rcnt] using hr) : Good s s1)
  | some v => exact good_inc hI (hk v rfl) ho (by simpa [rcnt] using hr)

theorem good_releaseH {s s1 : State} {t : Nat} {hx : H} (hI : Inv s) (ho : SameObs s1 s)
    (hr : ∀ o, refsTo s1 o + ccnt o (some hx) = refsTo s o) : Good s (releaseH s1 t hx) := by
  cases hx with
  | own v => exact good_release hI ho (by simpa [ccnt] using hr)
  | _ => exact (good_same hI ho (by simpa [ccnt] using hr) : Good s s1)

theorem usable_cell {s : State} {x : Nat} (h : usable s x = true) :
    ∃ hx, cell s x = some hx ∧ hx.isStale = false := by
  unfold usable at h
  cases hc : cell s x <;> simp_all

theorem refsTo_pos_of_cell {s : State} {x v : Nat} (h : cell s x = some (.own v)) : 0 < refsTo s v := by
  have : 0 < hrefs s v :=
    sumBy_pos_of_mem _ _ _ (List.mem_of_getElem? (cells_get_of_cell h)) (by simp [ccnt])
  rw [refsTo_eq]; omega

theorem refsTo_pos_of_ptr {s : State} {x v : Nat} {hx : H} (h : cell s x = some hx) (hs : hx.isStale = false)
    (hp : hx.ptr = some v) : 0 < refsTo s v := by
  cases hx <;> simp_all [H.ptr, H.isStale]
  exact refsTo_pos_of_cell h

section alloc
variable (s : State) (t a o : Nat)

/-- `getD_map_modObj` for `alloc`. -/
theorem getD_map_alloc {α : Type} (g : Obj → α) (d : α) :
    ((exec s t (.alloc a)).objs[o]?.map g).getD d =
      if o = s.objs.length then
        g { count := 1, alive := true, destroyed := 0, manual := 1, addr := a, mcell := s.cells.length }
      else (s.objs[o]?.map g).getD d := by
  simp only [exec, List.getElem?_append]
  split
  · rw [if_neg (by omega)]
  · split
    · simp [*]
    · rw [List.getElem?_eq_none (by simp; omega), List.getElem?_eq_none (by omega)]

theorem countOf_alloc : countOf (exec s t (.alloc a)) o = if o = s.objs.length then 1 else countOf s o :=
  getD_map_alloc ..
theorem aliveOf_alloc : aliveOf (exec s t (.alloc a)) o = if o = s.objs.length then true else aliveOf s o :=
  getD_map_alloc ..
theorem destroyedOf_alloc :
    destroyedOf (exec s t (.alloc a)) o = if o = s.objs.length then 0 else destroyedOf s o :=
  getD_map_alloc ..
theorem addrO_alloc : addrO (exec s t (.alloc a)) o = if o = s.objs.length then a else addrO s o :=
  getD_map_alloc ..

theorem refsTo_alloc : refsTo (exec s t (.alloc a)) o = refsTo s o + if o = s.objs.length then 1 else 0 := by
  have hh : hrefs (exec s t (.alloc a)) o = hrefs s o := by simp [hrefs, exec, sumBy_append, sumBy, ccnt]
  have hr : rrefs (exec s t (.alloc a)) o = rrefs s o := rfl
  have hm : manualOf (exec s t (.alloc a)) o = if o = s.objs.length then 1 else manualOf s o := getD_map_alloc ..
  rw [refsTo_eq, refsTo_eq, hh, hr, hm]; split
  · rw [manualOf_of_none (List.getElem?_eq_none (by omega))]
  · rfl
end alloc

theorem good_alloc {s : State} (hI : Inv s) (t a : Nat) : Good s (exec s t (.alloc a)) := by
  have hlen : (exec s t (.alloc a)).objs.length = s.objs.length + 1 := by simp [exec]
  have h0 : countOf s s.objs.length = 0 := countOf_ge (Nat.le_refl _)
  refine ⟨fun o => ?_, fun o => ⟨fun hne hlt => ?_, ?_⟩⟩
  · by_cases ho : o = s.objs.length
    · have := (hI o).cnt
      subst ho
      exact ⟨by rw [countOf_alloc, refsTo_alloc]; simp; omega, by simp [countOf_alloc, aliveOf_alloc],
        by simp [countOf_alloc, destroyedOf_alloc]⟩
    · exact objOK_same (hI o) (by simp [countOf_alloc, ho]) (by simp [refsTo_alloc, ho])
        (by simp [aliveOf_alloc, ho]) (by simp [destroyedOf_alloc, ho]) (by omega)
  · exact absurd (by simp [countOf_alloc, Nat.ne_of_lt hlt]) hne
  · by_cases ho : o = s.objs.length
    · simp [ho, h0, destroyedOf_alloc, destroyedOf_ge]
    · simp [countOf_alloc, destroyedOf_alloc, ho]; omega

theorem exec_good (s : State) (t : Nat) (ms : MStep) (hI : Inv s) (ht : t < s.thr.length)
    (hg : guard s t ms = true) : Good s (exec s t ms) := by
  cases ms with
  | alloc a => exact good_alloc hI t a
  | ctorNull x =>
    exact good_same (s1 := setCell s x (some .null)) hI (.of_objs rfl) fun o =>
      refsTo_ctor .null o (by simpa [guard] using hg)
  | copyInit x y =>
    simp only [guard, Bool.and_eq_true, decide_eq_true_eq] at hg
    obtain ⟨hy, hcy, hst⟩ := usable_cell hg.2
    simp only [exec, hcy]
    exact good_incOpt hI (fun v => refsTo_pos_of_ptr hcy hst) (.of_objs rfl) fun o =>
      ccnt_ofPtr o hy.ptr ▸ refsTo_ctor hy.copy o hg.1
  | moveInit x y =>
    simp only [guard, Bool.and_eq_true, decide_eq_true_eq] at hg
    obtain ⟨hy, hcy, -⟩ := usable_cell hg.2
    have hxy : ¬ (x = y ∧ x < s.cells.length) := fun e => by
      have := cells_get_of_cell hcy; simp [← e.1, hg.1] at this
    simp only [exec, hcy]
    refine good_same hI (.of_objs rfl) fun o => ?_
    have h1 := refsTo_ctor hy o hg.1
    have h2 := refsTo_setCell (s := setCell s x (some hy)) (some .null) o (by rw [cell_setCell, if_neg hxy, hcy])
    have h0 : ccnt o (some .null) = 0 := rfl
    omega
  | rawInit x k =>
    simp only [guard, Bool.and_eq_true, decide_eq_true_eq] at hg
    exact good_inc hI hg.2 (.of_objs rfl) fun o => refsTo_ctor (.own k) o hg.1
  | dtorH x =>
    obtain ⟨hx, hcx, -⟩ := usable_cell hg
    simp only [exec, hcx]
    exact good_releaseH hI (.of_objs rfl) fun o => refsTo_setCell none o hcx
  | incFrom y =>
    obtain ⟨hy, hcy, hst⟩ := usable_cell hg
    simp only [exec, hcy]
    exact good_incOpt hI (fun v => refsTo_pos_of_ptr hcy hst) (.of_objs rfl) fun o =>
      refsTo_pushReg s t _ o ht
  | swapDec x =>
    obtain ⟨hx, hcx, -⟩ := usable_cell hg
    simp only [exec, hcx]
    refine good_releaseH hI (.of_objs rfl) fun o => ?_
    have h1 := refsTo_popReg s t o ht
    have h2 := refsTo_setCell (s := popReg s t) (some (H.ofPtr (topReg s t))) o hcx
    rw [ccnt_ofPtr] at h2; omega
  | moveDec x y =>
    simp only [guard, Bool.and_eq_true] at hg
    obtain ⟨hy, hcy, -⟩ := usable_cell hg.2
    obtain ⟨hx, hcx, -⟩ := usable_cell hg.1
    obtain ⟨hx', hcx'⟩ : ∃ h, cell (setCell s y (some .null)) x = some h := by
      rw [cell_setCell]; split
      · exact ⟨_, rfl⟩
      · exact ⟨_, hcx⟩
    simp only [exec, hcy, hcx']
    refine good_releaseH hI (.of_objs rfl) fun o => ?_
    have h1 := refsTo_setCell (some .null) o hcy
    have h2 := refsTo_setCell (some hy) o hcx'
    have h0 : ccnt o (some .null) = 0 := rfl
    omega
  | incRaw k =>
    refine good_incOpt hI (fun v hv => ?_) (.of_objs rfl) fun o => refsTo_pushReg s t k o ht
    subst hv; simpa [guard] using hg
  | decH x =>
    obtain ⟨hx, hcx, -⟩ := usable_cell hg
    simp only [exec, hcx]
    cases hx with
    | own v => exact good_release hI (.of_objs rfl) fun o => refsTo_setCell (some (.stale v)) o hcx
    | _ => exact good_same hI (.of_objs rfl) fun _ => rfl
  | storeTop x =>
    simp only [guard] at hg
    cases hcx : cell s x with
    | none => simp [hcx] at hg
    | some hx =>
      refine good_same (s1 := setCell (popReg s t) x (some (H.ofPtr (topReg s t)))) hI (.of_objs rfl) fun o => ?_
      have h1 := refsTo_popReg s t o ht
      have h2 := refsTo_setCell (s := popReg s t) (some (H.ofPtr (topReg s t))) o hcx
      have h3 : ccnt o (some hx) = 0 := by
        cases hx with
        | own v => simp [hcx, H.isOwn] at hg
        | _ => rfl
      rw [ccnt_ofPtr] at h2; omega
  | incM k =>
    have hk : 0 < refsTo s k := by simpa [guard] using hg
    have : exec s t (.incM k) = incCount (addManual s k) k := by
      simp only [exec, incCount_eq, addManual_eq, modObj, List.modify_modify_eq]; rfl
    rw [this]
    exact good_inc hI hk ⟨by simp, by simp, by simp, by simp⟩ fun o =>
      refsTo_addManual s k o (hI.lt_of_refs hk)
  | decM k =>
    exact good_release hI ⟨by simp, by simp, by simp, by simp⟩ fun o =>
      refsTo_subManual s k o (by simpa [guard] using hg)
  | dtorMem o' =>
    simp only [exec]
    split
    · split
      · exact good_releaseH hI (.of_objs rfl) fun o => refsTo_setCell none o ‹_›
      · exact good_same hI (.of_objs rfl) fun _ => rfl
    · exact good_same hI (.of_objs rfl) fun _ => rfl

theorem exec_other (s : State) (t t' : Nat) (ms : MStep) (hne : t ≠ t') :
    getThr (exec s t ms) t' = getThr s t' := by
  cases ms with
  | alloc a => rfl
  | _ =>
    dsimp only [exec, incOpt, releaseH] <;> (repeat' split) <;>
      simp [getThr_release, getThr_pushReg, getThr_popReg, hne]

theorem exec_thr_length (s : State) (t : Nat) (ms : MStep) : (exec s t ms).thr.length = s.thr.length := by
  cases ms with
  | alloc a => rfl
  | _ => dsimp only [exec, incOpt, releaseH] <;> (repeat' split) <;> simp

def pops : MStep → Nat
  | .swapDec _ => 1
  | .storeTop _ => 1
  | _ => 0

def pushes : MStep → Nat
  | .incFrom _ => 1
  | .incRaw _ => 1
  | _ => 0

def ContGrow (k k' : List MStep) : Prop := k' = k ∨ ∃ v, k' = .dtorMem v :: k

theorem ContGrow.refl (k : List MStep) : ContGrow k k := .inl rfl

theorem ContGrow.ite (k : List MStep) (c : Prop) [Decidable c] (v : Nat) :
    ContGrow k ((if c then [.dtorMem v] else []) ++ k) := by
  split
  · exact .inr ⟨v, rfl⟩
  · exact .inl rfl

/-- The guard is needed only for `incFrom` and `swapDec`: on storage without a handle they do nothing,
    so neither push nor pop. -/
theorem exec_self (s : State) (t : Nat) (ms : MStep) (ht : t < s.thr.length) (hg : guard s t ms = true) :
    (getThr (exec s t ms) t).regs.length = (getThr s t).regs.length - pops ms + pushes ms ∧
    ContGrow (getThr s t).cont (getThr (exec s t ms) t).cont := by
  cases ms with
  | alloc a => exact ⟨rfl, .inl rfl⟩
  | _ =>
    dsimp only [exec, incOpt, releaseH] <;> (repeat' split) <;>
      simp [regs_release, cont_release, getThr_pushReg, getThr_popReg, ht, pops, pushes,
        ContGrow.ite, ContGrow.refl] <;>
      simp_all [guard, usable]

/-- `x = std::move(x)`: the handle is read, cleared and written back, and the cleared handle has nothing to release -/
theorem self_move_eq {s : State} (t : Nat) {x : Nat} {hx : H} (hcx : cell s x = some hx) :
    exec s t (.moveDec x x) = s := by
  have hxl := lt_of_cell hcx
  have hc1 : cell (setCell s x (some H.null)) x = some H.null := by simp [cell_setCell, hxl]
  have hget : s.cells[x] = some hx := by simpa [hxl] using cells_get_of_cell hcx
  simp only [exec, hcx, hc1, releaseH]
  simp only [setCell, List.set_set]
  rw [← hget, List.set_getElem_self]

theorem exec_objs (s : State) (t : Nat) (ms : MStep) (h : ∀ a, ms ≠ .alloc a) :
    (exec s t ms).objs.length = s.objs.length ∧ ∀ o, addrO (exec s t ms) o = addrO s o := by
  cases ms with
  | alloc a => exact absurd rfl (h a)
  | _ => dsimp only [exec, incOpt, releaseH] <;> (repeat' split) <;> simp

structure AddrInv (s : State) : Prop where
  inj : ∀ i j, aliveOf s i = true → aliveOf s j = true → addrO s i = addrO s j → i = j
  nz : ∀ i, aliveOf s i = true → addrO s i ≠ 0

theorem AddrInv.addrOf_inj {s : State} (hA : AddrInv s) {p q : Option Nat}
    (hp : ∀ v, p = some v → aliveOf s v = true) (hq : ∀ v, q = some v → aliveOf s v = true) :
    addrOf s p = addrOf s q ↔ p = q := by
  cases p <;> cases q <;> simp only [addrOf, Option.some.injEq, reduceCtorEq, iff_false]
  · exact fun e => hA.nz _ (hq _ rfl) e.symm
  · exact hA.nz _ (hp _ rfl)
  · exact ⟨hA.inj _ _ (hp _ rfl) (hq _ rfl), fun e => e ▸ rfl⟩

theorem aliveOf_lt {s : State} {o : Nat} (h : aliveOf s o = true) : o < s.objs.length :=
  Nat.lt_of_not_le fun h' => by simp [aliveOf_ge h'] at h

theorem alive_mono {s s' : State} (hI : Inv s) (hG : Good s s') {o : Nat} (ho : o < s.objs.length)
    (h : aliveOf s' o = true) : aliveOf s o = true := by
  have h1 : 0 < countOf s' o := of_decide_eq_true ((hG.1 o).alive ▸ h)
  rw [(hI o).alive, decide_eq_true_eq]
  by_cases hc : countOf s' o = countOf s o
  · omega
  · exact (hG.2 o).touch_alive hc ho

theorem addr_alloc {s : State} {t a : Nat} (hA : AddrInv s) (hg : guard s t (.alloc a) = true) :
    AddrInv (exec s t (.alloc a)) := by
  simp only [guard, Bool.and_eq_true, bne_iff_ne, ne_eq, List.all_eq_true, Bool.or_eq_true,
    Bool.not_eq_true'] at hg
  have hfree : ∀ i, aliveOf s i = true → addrO s i ≠ a := fun i hi => by
    have hil := aliveOf_lt hi
    have := hg.2 _ (List.getElem_mem hil)
    simp_all [aliveOf, addrO]
  constructor
  · intro i j hi hj hij
    rw [aliveOf_alloc] at hi hj; rw [addrO_alloc, addrO_alloc] at hij
    by_cases hi' : i = s.objs.length <;> by_cases hj' : j = s.objs.length <;>
      simp only [hi', hj', if_true, if_false] at hi hj hij
    · rw [hi', hj']
    · exact absurd hij.symm (hfree j hj)
    · exact absurd hij (hfree i hi)
    · exact hA.inj i j hi hj hij
  · intro i hi
    rw [aliveOf_alloc] at hi; rw [addrO_alloc]
    split
    · exact hg.1
    · exact hA.nz i (by simpa [*] using hi)

theorem addr_exec {s : State} {t : Nat} {ms : MStep} (hI : Inv s) (hA : AddrInv s)
    (hG : Good s (exec s t ms)) (hg : guard s t ms = true) : AddrInv (exec s t ms) := by
  by_cases hal : ∃ a, ms = .alloc a
  · obtain ⟨a, rfl⟩ := hal
    exact addr_alloc hA hg
  · obtain ⟨hlen, had⟩ := exec_objs s t ms fun a e => hal ⟨a, e⟩
    have hmono : ∀ i, aliveOf (exec s t ms) i = true → aliveOf s i = true :=
      fun i hi => alive_mono hI hG (hlen ▸ aliveOf_lt hi) hi
    constructor
    · intro i j hi hj hij
      rw [had, had] at hij
      exact hA.inj i j (hmono i hi) (hmono j hj) hij
    · intro i hi
      rw [had]; exact hA.nz i (hmono i hi)

/-- `H.stale` and the steps `decH`, `storeTop` model the release-before-store order that
    `operator=(T*)` had before its repair.  `compile` does not emit them, but they belong to the model
    (putting that order back makes them reachable again), so every invariant here covers them. -/
def NoStale (s : State) : Prop := ∀ v, some (H.stale v) ∉ s.cells

theorem NoStale.congr {s1 s : State} (hc : s1.cells = s.cells) (h : NoStale s) : NoStale s1 := by
  unfold NoStale; rwa [hc]

theorem exec_noStale {s : State} (t : Nat) {ms : MStep} (h : NoStale s) (hd : ∀ x, ms ≠ .decH x) :
    NoStale (exec s t ms) := by
  have hset : ∀ {s1 : State} (x : Nat) {c : Option H}, NoStale s1 → (∀ v, c ≠ some (.stale v)) →
      NoStale (setCell s1 x c) := fun x c h1 hc v hm =>
    (List.mem_or_eq_of_mem_set hm).elim (h1 v) fun e => hc v e.symm
  have hold : ∀ {y hy}, cell s y = some hy → ∀ v, some hy ≠ some (.stale v) := fun hc v e =>
    h v (e ▸ List.mem_of_getElem? (cells_get_of_cell hc))
  have hptr : ∀ r v, some (H.ofPtr r) ≠ some (.stale v) := fun r v => by cases r <;> simp [H.ofPtr]
  cases ms with
  | alloc a => simpa [NoStale, exec] using fun v => h v
  | ctorNull x => exact hset x h (by simp)
  | copyInit x y =>
    dsimp only [exec]; split
    · exact (hset x h (hptr _)).congr (incOpt_cells ..)
    · exact h
  | moveInit x y =>
    dsimp only [exec]; split
    · exact hset y (hset x h (hold ‹_›)) (by simp)
    · exact h
  | rawInit x k => exact (hset x h (by simp)).congr (incCount_cells ..)
  | dtorH x =>
    dsimp only [exec]; split
    · exact (hset x h (by simp)).congr (releaseH_cells ..)
    · exact h
  | incFrom y =>
    dsimp only [exec]; split
    · exact h.congr (incOpt_cells ..)
    · exact h
  | swapDec x =>
    dsimp only [exec]; split
    · exact (hset x h (hptr _)).congr (releaseH_cells ..)
    · exact h
  | moveDec x y =>
    dsimp only [exec]; split
    · split
      · exact (hset x (hset y h (by simp)) (hold ‹_›)).congr (releaseH_cells ..)
      · exact h
    · exact h
  | incRaw k => exact h.congr (incOpt_cells ..)
  | decH x => exact absurd rfl (hd x)
  | storeTop x => exact hset x h (hptr _)
  | incM k => exact h.congr ((addManual_cells ..).trans (incCount_cells ..))
  | decM k => exact h.congr ((release_cells ..).trans (subManual_cells ..))
  | dtorMem o =>
    dsimp only [exec]; split
    · split
      · exact (hset _ h (by simp)).congr (releaseH_cells ..)
      · exact h
    · exact h

/-- The continuation can run on a locals stack of depth `d` and leaves it empty.  The middle conjunct
    excludes the `ptr->refDec()` that leaves `ptr` stale: no operation compiles to one, since
    `operator=(T*)` releases last. -/
def contOK : Nat → List MStep → Prop
  | d, [] => d = 0
  | d, ms :: k => pops ms ≤ d ∧ (∀ x, ms ≠ .decH x) ∧ contOK (d - pops ms + pushes ms) k

def ThrOK (th : Thread) : Prop := contOK th.regs.length th.cont

theorem ThrOK.step {th th' : Thread} {ms : MStep} {rest : List MStep} (h : ThrOK th)
    (hc : th.cont = ms :: rest) (hr : th'.regs.length = th.regs.length - pops ms + pushes ms)
    (hk : ContGrow rest th'.cont) : ThrOK th' := by
  simp only [ThrOK, hc, contOK] at h
  rcases hk with hk | ⟨v, hk⟩ <;> simp only [ThrOK, hk, hr]
  · exact h.2.2
  · simpa [contOK, pops, pushes] using h.2.2

theorem thrOK_compile {th : Thread} (h : ThrOK th) (hc : th.cont = []) (op : Op) :
    ThrOK { th with cont := compile op } := by
  have h0 : th.regs.length = 0 := by simpa [ThrOK, hc, contOK] using h
  cases op <;> simp [ThrOK, h0, compile, contOK, pops, pushes]
  case ctorRaw x k => cases k <;> simp [contOK, pops, pushes]

structure GInv (s : State) : Prop where
  inv : Inv s
  thr : ∀ t, ThrOK (getThr s t)
  addr : AddrInv s
  noStale : NoStale s

theorem guard_congr {s0 s : State} (t : Nat) (ms : MStep) (hc : s0.cells = s.cells) (ho : s0.objs = s.objs)
    (hr : ∀ o, refsTo s0 o = refsTo s o) : guard s0 t ms = guard s t ms := by
  cases ms <;> simp only [guard, usable, cell, manualOf, hc, ho, hr]
  case decM k => rfl

theorem addrInv_congr {s0 s : State} (ho : s0.objs = s.objs) (h : AddrInv s) : AddrInv s0 := by
  cases s; cases s0; cases ho; exact ⟨h.inj, h.nz⟩

theorem Good.congr_left {s0 s s' : State} (h : s0.objs = s.objs) (hg : Good s0 s') : Good s s' := by
  cases s; cases s0; cases h; exact ⟨hg.1, fun o => ⟨(hg.2 o).touch_alive, (hg.2 o).destroyed⟩⟩

theorem enabled_start {s : State} {t : Nat} {op : Op} (he : enabled s (.start t op) = true) :
    t < s.thr.length ∧ (getThr s t).cont = [] := by
  simp only [enabled] at he
  cases hth : s.thr[t]? with
  | none => simp [hth] at he
  | some th => exact ⟨(List.getElem?_eq_some_iff.mp hth).1, by simpa [getThr, hth] using he⟩

theorem start_good {s : State} {t : Nat} {op : Op} (hG : GInv s) (he : enabled s (.start t op) = true) :
    GInv (start s t op) ∧ Good s (start s t op) := by
  obtain ⟨ht, hc⟩ := enabled_start he
  have hgood : Good s (start s t op) :=
    good_same hG.inv (.of_objs rfl) fun o => refsTo_setThr_regs s t _ o rfl
  refine ⟨⟨hgood.1, fun t' => ?_, addrInv_congr (s := s) rfl hG.addr, hG.noStale.congr rfl⟩, hgood⟩
  rw [start, getThr_setThr]; split
  · exact thrOK_compile (hG.thr t) hc op
  · exact hG.thr t'

theorem enabled_step {s : State} {t : Nat} (he : enabled s (.step t) = true) :
    ∃ ms rest, t < s.thr.length ∧ (getThr s t).cont = ms :: rest ∧ guard s t ms = true ∧
      micro s t = exec (setThr s t { getThr s t with cont := rest }) t ms := by
  simp only [enabled, nextStep] at he
  cases hth : s.thr[t]? with
  | none => simp [hth] at he
  | some th =>
    cases hc : th.cont with
    | nil => simp [hth, hc] at he
    | cons ms rest =>
      exact ⟨ms, rest, (List.getElem?_eq_some_iff.mp hth).1, by simp [getThr, hth, hc],
        by simpa [hth, hc] using he, by simp [micro, getThr, hth, hc]⟩

theorem micro_good {s : State} {t : Nat} (hG : GInv s) (he : enabled s (.step t) = true) :
    GInv (micro s t) ∧ Good s (micro s t) := by
  obtain ⟨ms, rest, ht, hc, hg, hm⟩ := enabled_step he
  rw [hm]
  generalize hs0 : setThr s t { getThr s t with cont := rest } = s0
  have hobjs : s0.objs = s.objs := hs0 ▸ rfl
  have hcells : s0.cells = s.cells := hs0 ▸ rfl
  have hrefs : ∀ o, refsTo s0 o = refsTo s o := fun o => hs0 ▸ refsTo_setThr_regs s t _ o rfl
  have ht0 : t < s0.thr.length := by rw [← hs0]; simpa using ht
  have hget0 : ∀ t', getThr s0 t' =
      if t = t' ∧ t < s.thr.length then { getThr s t with cont := rest } else getThr s t' :=
    fun t' => hs0 ▸ getThr_setThr s t t' _
  have hg0 : guard s0 t ms = true := by rw [guard_congr t ms hcells hobjs hrefs]; exact hg
  have hI0 : Inv s0 := (good_same hG.inv (.of_objs hobjs) hrefs).1
  have hgood := exec_good s0 t ms hI0 ht0 hg0
  obtain ⟨hregs, hgrow⟩ := exec_self s0 t ms ht0 hg0
  have hd : ∀ x, ms ≠ .decH x := by have := hG.thr t; simp only [ThrOK, hc, contOK] at this; exact this.2.1
  refine ⟨⟨hgood.1, fun t' => ?_, addr_exec hI0 (addrInv_congr hobjs hG.addr) hgood hg0,
    exec_noStale t (hG.noStale.congr hcells) hd⟩, hgood.congr_left hobjs⟩
  by_cases htt : t = t'
  · subst htt
    simp only [hget0, ht, and_self, if_true] at hregs hgrow
    exact (hG.thr t).step hc hregs hgrow
  · rw [exec_other s0 t t' ms htt, hget0, if_neg (by simp [htt])]
    exact hG.thr t'

theorem idle_no_regs {s : State} (hG : GInv s) (hidle : ∀ t, (getThr s t).cont = []) (o : Nat) :
    rrefs s o = 0 := by
  refine (sumBy_eq_zero_iff _ _).mpr fun th hth => ?_
  obtain ⟨i, hi, rfl⟩ := List.getElem_of_mem hth
  have h1 : (getThr s i).regs.length = 0 := by simpa [ThrOK, hidle i, contOK] using hG.thr i
  have hg : getThr s i = s.thr[i] := by simp [getThr, hi]
  simp [trefs, ← hg, List.eq_nil_of_length_eq_zero h1, sumBy]

end RkVerif.C08
