/-
C01 §1 (Blocks): C integer semantics, block arithmetic, serial loop, chunking.

The loops of §1 only ever convert and compute non-negative values, and on those every operation of the model is
the mathematical one as long as the result fits (`CTy.conv_nonneg`, `cres_nonneg`): for every width and
signedness.  What remains is to bound the intermediate values; for the block arithmetic the one fact used is that
`nbIdeal` is the ceiling of `n / bs` (`lt_nbIdeal_iff`).
-/
import RkVerif.Model.C01
namespace RkVerif.C01

theorem two_pow_mono {a b : Nat} (h : a ≤ b) : (2 : Int) ^ a ≤ 2 ^ b :=
  Int.ofNat_le.2 (Nat.pow_le_pow_right (by decide) h)

theorem two_pow_pos (b : Nat) : (0 : Int) < 2 ^ b := Int.pow_pos (by decide)

theorem CTy.hi_nonneg (T : CTy) : 0 ≤ T.hi := by
  unfold CTy.hi
  have := two_pow_pos T.bits
  have := two_pow_pos (T.bits - 1)
  split <;> omega

theorem CTy.hi_toNat_lt (T : CTy) : T.hi.toNat < 2 ^ T.bits := by
  refine (Int.toNat_lt T.hi_nonneg).2 (?_ : T.hi < 2 ^ T.bits)
  unfold CTy.hi
  have := two_pow_mono (Nat.sub_le T.bits 1)
  split <;> omega

theorem CTy.conv_nonneg (T : CTy) {x : Int} (h0 : 0 ≤ x) (h1 : x ≤ T.hi) : T.conv x = x := by
  have hm := two_pow_mono (Nat.sub_le T.bits 1)
  unfold CTy.hi at h1
  unfold CTy.conv
  have : x % 2 ^ T.bits = x := Int.emod_eq_of_lt h0 (by split at h1 <;> omega)
  simp only [this]
  split
  · next hs => rw [if_pos hs.1] at h1; omega
  · rfl

theorem cres_nonneg (A : CTy) {r : Int} (h0 : 0 ≤ r) (h1 : r ≤ A.hi) : cres A r = some r := by
  have hl : A.lo ≤ 0 := by unfold CTy.lo; have := two_pow_pos (A.bits - 1); split <;> omega
  unfold cres
  split
  · exact if_pos ⟨by omega, h1⟩
  · rw [A.conv_nonneg h0 h1]

/-- Negative values need a type of at least one bit (`⟨0, true⟩` has `lo = -1`, but `conv (-1) = 0`).  The loops of
    §1 only convert non-negative values and use `CTy.conv_nonneg`. -/
theorem conv_id (T : CTy) (hb : 1 ≤ T.bits) (x : Int) (h : T.inRange x) : T.conv x = x := by
  by_cases hx : 0 ≤ x
  · exact T.conv_nonneg hx h.2
  · obtain ⟨c, hc⟩ : ∃ c, T.bits = c + 1 := ⟨T.bits - 1, by omega⟩
    have hH := two_pow_pos c
    unfold CTy.inRange CTy.lo CTy.hi at h
    unfold CTy.conv
    simp only [hc, Nat.add_sub_cancel, Int.pow_succ] at h ⊢
    split at h
    · next hs =>
      have h1 : (x + 2 ^ c * 2) % (2 ^ c * 2) = x + 2 ^ c * 2 := Int.emod_eq_of_lt (by omega) (by omega)
      rw [Int.add_emod_right] at h1
      rw [h1, if_pos ⟨hs, by omega⟩]
      omega
    · omega

theorem cres_ok (A : CTy) (hb : 1 ≤ A.bits) (r : Int) (h : A.inRange r) : cres A r = some r := by
  unfold cres
  cases hs : A.signed
  · simp [conv_id A hb r h]
  · simp [h]

theorem CTy.hi_le_arith (T : CTy) : T.hi ≤ T.arith.hi := by
  unfold CTy.arith
  split
  · have h1 := two_pow_mono (show T.bits - 1 ≤ 31 by omega)
    have h2 := two_pow_mono (show T.bits ≤ 31 by omega)
    show T.hi ≤ 2 ^ 31 - 1
    unfold CTy.hi
    split <;> omega
  · exact Int.le_refl _

theorem CTy.int_le_arith (T : CTy) : 2 ^ 31 - 1 ≤ T.arith.hi := by
  unfold CTy.arith
  split
  · exact Int.le_refl _
  · have h1 := two_pow_mono (show 31 ≤ T.bits - 1 by omega)
    have h2 := two_pow_mono (show 31 ≤ T.bits by omega)
    unfold CTy.hi
    split <;> omega

theorem mul_add_le_mul_of_lt (k q bs : Int) (hbs : 0 < bs) (h : k + 1 ≤ q) : k * bs + bs ≤ q * bs := by
  have := Int.mul_le_mul_of_nonneg_right h (Int.le_of_lt hbs)
  rwa [Int.add_mul, Int.one_mul] at this

def nbIdeal (n bs : Int) : Int := if n > 0 then n / bs + (if n % bs ≠ 0 then 1 else 0) else 0

theorem lt_nbIdeal_iff {n bs k : Int} (hbs : 0 < bs) (hk : 0 ≤ k) : k < nbIdeal n bs ↔ k * bs < n := by
  have hP : 0 ≤ k * bs := Int.mul_nonneg hk (Int.le_of_lt hbs)
  unfold nbIdeal
  split
  · have h1 := Int.mul_ediv_add_emod n bs
    have h2 := Int.emod_nonneg n (Int.ne_of_gt hbs)
    have h3 := Int.emod_lt_of_pos n hbs
    rw [Int.mul_comm] at h1
    generalize n / bs = q at *
    generalize n % bs = r at *
    rcases Int.lt_trichotomy k q with hlt | rfl | hgt
    · have := mul_add_le_mul_of_lt k q bs hbs hlt
      split <;> omega
    · split <;> omega
    · have := mul_add_le_mul_of_lt q k bs hbs hgt
      split <;> omega
  · omega

theorem numBlocks_eq {T : CTy} {n bs : Int} (hn : n ≤ T.hi) (hbs : 0 < bs) (hbs2 : bs ≤ 2 ^ 31 - 1) :
    numBlocks T n bs = some (nbIdeal n bs) := by
  have hA := T.hi_le_arith
  have hI := T.int_le_arith
  unfold numBlocks nbIdeal
  split
  · next hpos =>
    have h1 := Int.mul_ediv_add_emod n bs
    have h2 := Int.emod_nonneg n (Int.ne_of_gt hbs)
    have h3 := Int.emod_lt_of_pos n hbs
    have h4 : 0 ≤ n / bs := Int.ediv_nonneg (Int.le_of_lt hpos) (Int.le_of_lt hbs)
    have h5 : bs * (n / bs) = n / bs + (bs - 1) * (n / bs) := by rw [Int.sub_mul]; omega
    have h6 : 0 ≤ (bs - 1) * (n / bs) := Int.mul_nonneg (by omega) h4
    have hc : (0 : Int) ≤ (if n % bs ≠ 0 then 1 else 0) ∧ n / bs + (if n % bs ≠ 0 then 1 else 0) ≤ n := by
      split <;> omega
    -- every operand and result lies in `[0, n]` or `[0, bs]`: each step is the mathematical operation
    simp (disch := omega) only [cdiv, cmod, cadd, CTy.conv_nonneg, cres_nonneg, Int.tdiv_eq_ediv_of_nonneg,
      Int.tmod_eq_emod_of_nonneg, Int.ne_of_gt hbs, ↓reduceIte]
  · rw [T.conv_nonneg (Int.le_refl 0) T.hi_nonneg]

theorem blockBegin_eq {T : CTy} {n bs k : Int} (hn : n ≤ T.hi) (hbs : 0 < bs) (hbs2 : bs ≤ 2 ^ 31 - 1)
    (hk0 : 0 ≤ k) (hk : k * bs < n) : blockBegin T bs k = some (k * bs) := by
  have hA := T.hi_le_arith
  have hI := T.int_le_arith
  have h1 := Int.mul_le_mul_of_nonneg_left (show 1 ≤ bs from hbs) hk0
  rw [Int.mul_one] at h1
  simp (disch := omega) only [blockBegin, cmul, CTy.conv_nonneg, cres_nonneg]

theorem blockEnd_eq {T : CTy} {n bs b : Int} (hn : n ≤ T.hi) (hbs : 0 < bs) (hbs2 : bs ≤ 2 ^ 31 - 1)
    (hb0 : 0 ≤ b) (hb : b < n) : blockEnd T n bs b = some (min (b + bs) n) := by
  have hA := T.hi_le_arith
  have hI := T.int_le_arith
  simp (disch := omega) only [blockEnd, csub, cadd, CTy.conv_nonneg, cres_nonneg]
  split <;> simp only [Option.some.injEq] <;> omega

/-- The chain starts at `min (k * bs) n`, not at `k * bs`: when no block is left (`fuel = 0`), `k * bs` is at or
    beyond `n` and the empty chain starts at `n`. -/
theorem blocksFrom_chain {T : CTy} {n bs : Int} (hn : n ≤ T.hi) (hbs : 0 < bs) (hbs2 : bs ≤ 2 ^ 31 - 1) :
    ∀ (fuel : Nat) (k : Int), 0 ≤ k → (nbIdeal n bs - k).toNat = fuel →
      ∃ L, blocksFrom T n bs fuel k = some L ∧ chainFrom bs n (min (k * bs) n) L := by
  intro fuel
  induction fuel with
  | zero =>
    intro k hk0 hf
    have := lt_nbIdeal_iff (n := n) hbs hk0
    exact ⟨[], rfl, by show min (k * bs) n = n; omega⟩
  | succ f ih =>
    intro k hk0 hf
    have hk := (lt_nbIdeal_iff hbs hk0).1 (show k < nbIdeal n bs by omega)
    have hP := Int.mul_nonneg hk0 (Int.le_of_lt hbs)
    obtain ⟨L, hL, hc⟩ := ih (k + 1) (by omega) (by omega)
    rw [Int.add_mul, Int.one_mul] at hc
    simp only [blocksFrom, blockBegin_eq hn hbs hbs2 hk0 hk, blockEnd_eq hn hbs hbs2 hP hk, hL]
    exact ⟨_, rfl, by omega, by omega, by omega, hc⟩

theorem blocks_chain {T : CTy} {n bs : Int} (hn : n ≤ T.hi) (hbs : 0 < bs) (hbs2 : bs ≤ 2 ^ 31 - 1) :
    ∃ L, blocks T n bs = some L ∧ (n ≤ 0 → L = []) ∧ (0 < n → chainFrom bs n 0 L) := by
  unfold blocks
  rw [numBlocks_eq hn hbs hbs2]
  have h0 := @lt_nbIdeal_iff n bs 0 hbs (Int.le_refl 0)
  rw [Int.zero_mul] at h0
  obtain ⟨L, hL, hc⟩ := blocksFrom_chain hn hbs hbs2 (nbIdeal n bs).toNat 0 (Int.le_refl 0) (by omega)
  rw [Int.zero_mul] at hc
  refine ⟨L, hL, fun h => ?_, fun h => by rwa [Int.min_eq_left (Int.le_of_lt h)] at hc⟩
  rw [show (nbIdeal n bs).toNat = 0 by omega] at hL
  exact (Option.some.inj hL).symm

theorem cinc_ok {T : CTy} {i : Int} (h0 : 0 ≤ i) (h1 : i + 1 ≤ T.hi) : cinc T i = some (i + 1) := by
  unfold cinc
  split
  · rw [T.conv_nonneg (by omega) h1]
  · exact cres_nonneg T (by omega) h1

theorem serialFrom_eq {T : CTy} {n : Int} (hn : n ≤ T.hi) :
    ∀ (fuel : Nat) (i : Int), 0 ≤ i → (n - i).toNat < fuel →
      serialFrom T n fuel i = some (intsFrom i (n - i).toNat) := by
  intro fuel
  induction fuel with
  | zero => intro i _ h; omega
  | succ f ih =>
    intro i hi hf
    unfold serialFrom
    split
    · next hlt =>
      rw [cinc_ok hi (by omega)]
      simp only
      rw [ih (i + 1) (by omega) (by omega), show (n - i).toNat = (n - (i + 1)).toNat + 1 by omega]
      rfl
    · rw [show (n - i).toNat = 0 by omega]
      rfl

theorem mem_intsFrom : ∀ (len : Nat) (a x : Int), x ∈ intsFrom a len ↔ a ≤ x ∧ x < a + len
  | 0, a, x => by simp [intsFrom]
  | len + 1, a, x => by
    simp only [intsFrom, List.mem_cons, mem_intsFrom len (a + 1) x]
    omega

theorem nodup_intsFrom : ∀ (len : Nat) (a : Int), (intsFrom a len).Nodup
  | 0, a => by simp [intsFrom]
  | len + 1, a => by
    simp only [intsFrom, List.nodup_cons, mem_intsFrom]
    exact ⟨by omega, nodup_intsFrom len (a + 1)⟩

theorem intsFrom_append : ∀ (l1 l2 : Nat) (a : Int), intsFrom a l1 ++ intsFrom (a + l1) l2 = intsFrom a (l1 + l2)
  | 0, l2, a => by simp [intsFrom]
  | l1 + 1, l2, a => by
    rw [show l1 + 1 + l2 = (l1 + l2) + 1 by omega]
    simp only [intsFrom, List.cons_append, ← intsFrom_append l1 l2 (a + 1)]
    rw [show a + 1 + (l1 : Int) = a + ((l1 + 1 : Nat) : Int) by omega]

theorem map_add_intsFrom : ∀ (len : Nat) (a c : Int), (intsFrom a len).map (c + ·) = intsFrom (c + a) len
  | 0, a, c => rfl
  | len + 1, a, c => by
    simp only [intsFrom, List.map_cons, map_add_intsFrom len (a + 1) c, Int.add_assoc]

theorem map_internalIndex {T : CTy} (hu : T.hi ≤ u64.hi) {first : Int} (h0 : 0 ≤ first) (len : Nat) {a : Int} (ha : 0 ≤ a)
    (h1 : a + len ≤ 2 ^ 32) (h2 : first + a + len ≤ T.hi + 1) :
    (intsFrom a len).map (internalIndex T first) = intsFrom (first + a) len := by
  have hu64 : u64.hi = 2 ^ 64 - 1 := rfl
  have hu32 : u32.hi = 2 ^ 32 - 1 := rfl
  rw [← map_add_intsFrom]
  refine List.map_congr_left fun x hx => ?_
  rw [mem_intsFrom] at hx
  simp (disch := omega) only [internalIndex, CTy.conv_nonneg]

theorem internalSetsFrom_ok {T : CTy} {total : Int} (htot : total ≤ T.hi) (hu : T.hi ≤ u64.hi) :
    ∀ (fuel n : Nat) (first : Int), 0 ≤ first → first + n = total → n < fuel →
      ∃ L, internalSetsFrom total fuel first = some L ∧
        (∀ fs ∈ L, 0 < fs.2 ∧ fs.2 ≤ maxChunk) ∧
        (L.flatMap fun fs => (intsFrom 0 fs.2.toNat).map (internalIndex T fs.1)) = intsFrom first n := by
  have hu64 : u64.hi = 2 ^ 64 - 1 := rfl
  have hu32 : u32.hi = 2 ^ 32 - 1 := rfl
  have hi32 : i32.hi = 2 ^ 31 - 1 := rfl
  have hmc : maxChunk = 2 ^ 31 - 1 := rfl
  intro fuel
  induction fuel with
  | zero => intro n first _ _ h; omega
  | succ f ih =>
    intro n first h0 hn hf
    unfold internalSetsFrom
    split
    · next hlt =>
      obtain ⟨c, hc, hc0, hcn, hcm⟩ : ∃ c : Nat, (if total - first < maxChunk then total - first else maxChunk) = c ∧
          0 < c ∧ c ≤ n ∧ (c : Int) ≤ 2 ^ 31 - 1 := ⟨min n 2147483647, by split <;> omega, by omega, by omega, by omega⟩
      obtain ⟨L, hL, hsz, hflat⟩ := ih (n - c) (first + c) (by omega) (by omega) (by omega)
      simp (disch := omega) only [csub, cadd, CTy.conv_nonneg, cres_nonneg, hc, hL]
      refine ⟨_, rfl, List.forall_mem_cons.2 ⟨⟨by omega, by omega⟩, hsz⟩, ?_⟩
      rw [List.flatMap_cons, hflat, Int.toNat_natCast,
        map_internalIndex hu h0 c (Int.le_refl 0) (by omega) (by omega), Int.add_zero, intsFrom_append,
        Nat.add_sub_cancel' hcn]
    · rw [show n = 0 by omega]
      exact ⟨[], rfl, nofun, rfl⟩

end RkVerif.C01
