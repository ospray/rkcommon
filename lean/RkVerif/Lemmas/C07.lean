/-
Lemmas for the C07 theorems (Mathlib side; never imported by the driver):
 * `CNum.ofFieldX E` — the scalar class of the model instantiated at an arbitrary linearly ordered field, with
   FLT_MIN, `pow` and `sqrt` as parameters (`E : Ext α`) about which each theorem states what it needs;
 * every model definition at that instance is the plain field expression (`*_eq`);
 * the arithmetic the theorems share: bounds `|a| ≤ p` and relative errors `|a - 1| ≤ p` under the field operations
   and under rounding, the two Newton–Raphson kernels in that form, the range of `lo + t·(hi − lo)` for `t ∈ [0,1]`
   (exact and rounded); then the integer and packing kernels over `Int` and `Nat`.
-/
import Mathlib.Algebra.Order.Field.Basic
import Mathlib.Tactic.Ring
import Mathlib.Tactic.FieldSimp
import Mathlib.Tactic.NormNum
import Mathlib.Tactic.NormNum.OfScientific
import RkVerif.Model.C07

namespace RkVerif.C07

/-- parameters of the field instance: FLT_MIN and the two library functions -/
structure Ext (α : Type) where
  fmin : α
  pow : α → α → α
  sqrt : α → α

@[reducible] def _root_.RkVerif.CNum.ofFieldX (α : Type) [Field α] [LinearOrder α] [IsStrictOrderedRing α] (E : Ext α) : CNum α where
  add := (· + ·)
  sub := (· - ·)
  mul := (· * ·)
  div := (· / ·)
  neg := (- ·)
  mod a _ := a
  lt := (· < ·)
  le := (· ≤ ·)
  min := Min.min
  max := Max.max
  ofNat n := (n : α)
  ofScientific m s e := (OfScientific.ofScientific m s e : α)
  ofInt n := (n : α)
  toInt _ := 0
  decLt := inferInstance
  decLe := inferInstance
  beq a b := decide (a = b)
  abs a := |a|
  sqrt := E.sqrt
  sin a := a
  cos a := a
  tan a := a
  acos a := a
  asin a := a
  atan2 a _ := a
  floor a := a
  pow := E.pow
  exp a := a
  posInf := 0
  negInf := 0
  pi := 0
  nan := 0
  ulp := 0
  fltMin := E.fmin
  rcpEst a := a
  rsqrtEst a := a

section
variable {α : Type} [Field α] [LinearOrder α] [IsStrictOrderedRing α] (E : Ext α)
local notation "𝔽" => CNum.ofFieldX α E

theorem ofFieldX_ofNat (n : Nat) :
    (@OfNat.ofNat α n (@instOfNatOfCNum α 𝔽 n)) = (n : α) := rfl
theorem ofFieldX_ofScientific (m : Nat) (s : Bool) (e : Nat) :
    (@OfScientific.ofScientific α (@instOfScientificOfCNum α 𝔽) m s e) = (OfScientific.ofScientific m s e : α) := rfl
theorem ofFieldX_cofNat (n : Nat) : @CNum.ofNat α 𝔽 n = (n : α) := rfl
theorem ofFieldX_abs (x : α) : @CNum.abs α 𝔽 x = |x| := rfl
theorem ofFieldX_fltMin : @CNum.fltMin α 𝔽 = E.fmin := rfl
theorem ofFieldX_sqrt (x : α) : @CNum.sqrt α 𝔽 x = E.sqrt x := rfl
theorem ofFieldX_pow (x y : α) : @CNum.pow α 𝔽 x y = E.pow x y := rfl

theorem sign_eq (x : α) : @sign α 𝔽 x = if x < 0 then -1 else 1 := by
  simp only [sign, ofFieldX_ofNat, Nat.cast_zero, Nat.cast_one]

theorem rcp_simd_eq (x r : α) : @rcp_simd α 𝔽 x r = r * (2 - r * x) := by
  simp only [rcp_simd, ofFieldX_ofNat]

theorem rcp_nosimd_eq (x : α) : @rcp_nosimd α 𝔽 x = 1 / x := by
  simp only [rcp_nosimd, ofFieldX_ofNat]; norm_num

theorem rcp_safe_arg_eq (x : α) :
    @rcp_safe_arg α 𝔽 x = if |x| < E.fmin then (if 0 ≤ x then E.fmin else -E.fmin) else x := by
  simp only [rcp_safe_arg, ofFieldX_ofNat, ofFieldX_abs, ofFieldX_fltMin, Nat.cast_zero]

theorem rsqrt_simd_eq (x r : α) : @rsqrt_simd α 𝔽 x r = 3 / 2 * r + ((x * -(1 / 2)) * r) * (r * r) := by
  have h1 : (1.5 : α) = 3 / 2 := by norm_num
  have h2 : (0.5 : α) = 1 / 2 := by norm_num
  simp only [rsqrt_simd, ofFieldX_ofScientific, h1, h2]

theorem rsqrt_nosimd_eq (x : α) : @rsqrt_nosimd α 𝔽 x = 1 / E.sqrt x := by
  simp only [rsqrt_nosimd, ofFieldX_ofNat, ofFieldX_sqrt, Nat.cast_one]

theorem clamp_eq (x lo hi : α) : @clamp α 𝔽 x lo hi = max (min x hi) lo := rfl

theorem deg2rad_eq (x : α) :
    @deg2rad α 𝔽 x = x * (1745329251994329576923690768489 / 100000000000000000000000000000000) := by
  simp only [deg2rad, ofFieldX_ofScientific]; norm_num

theorem lerp_eq (f a b : α) : @lerp α 𝔽 f a b = (1 - f) * a + f * b := by
  simp only [lerp, ofFieldX_ofNat]; norm_num

theorem linear_to_srgb_eq (f : α) : @linear_to_srgb α 𝔽 f = E.pow (max f 0) (5 / 11) := by
  have h : (1 / 2.2 : α) = 5 / 11 := by norm_num
  simp only [linear_to_srgb, ofFieldX_ofNat, ofFieldX_ofScientific, ofFieldX_pow, Nat.cast_one, Nat.cast_zero, h]

theorem cvt_uint32_eq (rnd : α → Nat) (f : α) : @cvt_uint32 α 𝔽 rnd f = rnd (255 * @clamp α 𝔽 f 0 1) := by
  simp only [cvt_uint32, ofFieldX_ofNat]; norm_num

theorem biased_float_eq (k : Nat) (lo hi : α) :
    @biased_float α 𝔽 k lo hi = lo + (k : α) / 4294967296 * (hi - lo) := by
  have h : (2.3283064365386962890625e-10 : α) = 1 / 4294967296 := by norm_num
  simp only [biased_float, ofFieldX_ofScientific, ofFieldX_cofNat, h]; ring

theorem uniform_real_eq (l u : α) (gmin gmax g : Nat) :
    @uniform_real α 𝔽 l u gmin gmax g =
      l + ((sub32 g gmin : Nat) : α) / ((sub32 gmax gmin : Nat) : α) * (u - l) := by
  show l + ((sub32 g gmin : Nat) : α) * ((u - l) / ((sub32 gmax gmin : Nat) : α)) = _; ring

theorem makeRandomColor_eq (i : Nat) :
    @makeRandomColor α 𝔽 i =
      let g := (i * 1905 + 12312314) % 4294967296
      (((g % 9503 : Nat) : α) / ((9502 : Nat) : α), ((g % 319 : Nat) : α) / ((318 : Nat) : α),
        ((g % 10143 : Nat) : α) / ((10142 : Nat) : α)) := by
  simp only [makeRandomColor, ofFieldX_ofNat, ofFieldX_cofNat, Nat.cast_one, mul_one_div]

end

section
variable {α : Type} [Field α] [LinearOrder α] [IsStrictOrderedRing α]

theorem abs_add_le_add {a b p q : α} (ha : |a| ≤ p) (hb : |b| ≤ q) : |a + b| ≤ p + q :=
  (abs_add_le a b).trans (add_le_add ha hb)

theorem abs_sub_le_add {a b p q : α} (ha : |a| ≤ p) (hb : |b| ≤ q) : |a - b| ≤ p + q :=
  (abs_sub a b).trans (add_le_add ha hb)

theorem abs_mul_le_mul {a b p q : α} (ha : |a| ≤ p) (hb : |b| ≤ q) : |a * b| ≤ p * q :=
  abs_mul a b ▸ mul_le_mul ha hb (abs_nonneg b) ((abs_nonneg a).trans ha)

theorem abs_pow_le_pow {a p : α} (ha : |a| ≤ p) (n : Nat) : |a ^ n| ≤ p ^ n :=
  abs_pow a n ▸ pow_le_pow_left₀ (abs_nonneg a) ha n

/-! Relative errors: `|a - 1| ≤ p` says that `a = y/y₀` for a `y` known to relative error `p`. A rounded operation
multiplies by a factor `1 + d`, `|d| ≤ u`. With the bound written as `P - 1` the bounds of factors multiply, so `n`
roundings give `(1 + u)ⁿ - 1`. -/

omit [IsStrictOrderedRing α] in
theorem abs_one_add_sub_one {d u : α} (hd : |d| ≤ u) : |(1 + d) - 1| ≤ (1 + u) - 1 := by
  simpa using hd

theorem abs_le_one_add {a p : α} (ha : |a - 1| ≤ p) : |a| ≤ 1 + p := by
  have h := abs_add_le_add (abs_one (α := α)).le ha
  rwa [add_sub_cancel] at h

theorem pos_of_abs_sub_one_le {a p : α} (ha : |a - 1| ≤ p) (hp : p < 1) : 0 < a :=
  (sub_pos.mpr hp).trans_le (sub_le_of_abs_sub_le_left ha)

theorem abs_round_sub_one_le {a d P u : α} (ha : |a - 1| ≤ P - 1) (hd : |d| ≤ u) : |a * (1 + d) - 1| ≤ P * (1 + u) - 1 := by
  have h : a * (1 + d) - 1 = (a - 1) + d + (a - 1) * d := by ring
  rw [h]
  exact (abs_add_le_add (abs_add_le_add ha hd) (abs_mul_le_mul ha hd)).trans_eq (by ring)

theorem abs_div_sub_one_le {a b p q : α} (ha : |a - 1| ≤ p) (hb : |b - 1| ≤ q) (hq : q < 1) :
    |a / b - 1| ≤ (p + q) / (1 - q) := by
  have hpos := pos_of_abs_sub_one_le hb hq
  have h : a / b - 1 = ((a - 1) - (b - 1)) / b := by rw [sub_sub_sub_cancel_right, sub_div, div_self hpos.ne']
  rw [h, abs_div, abs_of_pos hpos]
  have hab := abs_sub_le_add ha hb
  exact div_le_div₀ ((abs_nonneg _).trans hab) hab (sub_pos.mpr hq) (sub_le_of_abs_sub_le_left hb)

/-- Newton–Raphson step of the reciprocal, `p = r·x`: the inner product is rounded, two more roundings follow. -/
theorem rcp_nr_rel {p d1 d2 d3 e u : α} (he : |p - 1| ≤ e) (h1 : |d1| ≤ u) (h2 : |d2| ≤ u) (h3 : |d3| ≤ u) :
    |p * (2 - p * (1 + d1)) * (1 + d2) * (1 + d3) - 1| ≤ (1 + (e ^ 2 + u * (1 + e) ^ 2)) * (1 + u) * (1 + u) - 1 := by
  have h : p * (2 - p * (1 + d1)) - 1 = -((p - 1) ^ 2 + d1 * p ^ 2) := by ring
  have hA : |p * (2 - p * (1 + d1)) - 1| ≤ 1 + (e ^ 2 + u * (1 + e) ^ 2) - 1 := by
    rw [h, abs_neg, add_sub_cancel_left]
    exact abs_add_le_add (abs_pow_le_pow he 2) (abs_mul_le_mul h1 (abs_pow_le_pow (abs_le_one_add he) 2))
  exact abs_round_sub_one_le (abs_round_sub_one_le hA h2) h3

/-- Newton–Raphson step of the reciprocal square root, `q = r·√x`. `P` stands for the product of the four rounding
    factors of the cubic term, of which only its relative error `π` matters; the final addition is rounded. -/
theorem rsqrt_nr_rel {q d1 P d6 e u π : α} (he : |q - 1| ≤ e) (h1 : |d1| ≤ u) (hP : |P - 1| ≤ π) (h6 : |d6| ≤ u) :
    |(3 / 2 * q * (1 + d1) - 1 / 2 * q ^ 3 * P) * (1 + d6) - 1| ≤
      (1 + (3 / 2 * ((1 + e) * u + e ^ 2) + 1 / 2 * ((1 + e) ^ 3 * π + e ^ 3))) * (1 + u) - 1 := by
  have h : 3 / 2 * q * (1 + d1) - 1 / 2 * q ^ 3 * P - 1
      = 3 / 2 * (q * d1 - (q - 1) ^ 2) - 1 / 2 * (q ^ 3 * (P - 1) + (q - 1) ^ 3) := by ring
  have hq := abs_le_one_add he
  have h32 : |(3 / 2 : α)| ≤ 3 / 2 := (abs_of_pos (by norm_num)).le
  have h12 : |(1 / 2 : α)| ≤ 1 / 2 := (abs_of_pos (by norm_num)).le
  have hI := abs_sub_le_add
    (abs_mul_le_mul h32 (abs_sub_le_add (abs_mul_le_mul hq h1) (abs_pow_le_pow he 2)))
    (abs_mul_le_mul h12 (abs_add_le_add (abs_mul_le_mul (abs_pow_le_pow hq 3) hP) (abs_pow_le_pow he 3)))
  rw [← h] at hI
  exact abs_round_sub_one_le (hI.trans_eq (add_sub_cancel_left _ _).symm) h6

theorem div_mem_unit {a b : α} (h0 : 0 ≤ a) (hab : a ≤ b) (hb : 0 < b) : 0 ≤ a / b ∧ a / b ≤ 1 :=
  ⟨div_nonneg h0 hb.le, (div_le_one hb).mpr hab⟩

theorem affine_mem {t lo hi : α} (ht : 0 ≤ t ∧ t ≤ 1) (h : lo ≤ hi) :
    lo ≤ lo + t * (hi - lo) ∧ lo + t * (hi - lo) ≤ hi :=
  have hd := sub_nonneg.mpr h
  ⟨le_add_of_nonneg_right (mul_nonneg ht.1 hd), le_sub_iff_add_le'.mp (mul_le_of_le_one_left hd ht.2)⟩

theorem affine_lt {t lo hi : α} (h1 : t < 1) (h : lo < hi) : lo + t * (hi - lo) < hi :=
  lt_sub_iff_add_lt'.mp (mul_lt_of_lt_one_left (sub_pos.mpr h) h1)

theorem mem_of_abs_sub_le {lo hi y v r : α} (hy : lo ≤ y ∧ y ≤ hi) (h : |v - y| ≤ r) : lo - r ≤ v ∧ v ≤ hi + r :=
  have ⟨h1, h2⟩ := abs_sub_le_iff.mp h
  ⟨(sub_le_sub_right hy.1 r).trans (sub_le_comm.mp h2), (sub_le_iff_le_add'.mp h1).trans (add_le_add hy.2 le_rfl)⟩

/-- The shape shared by the rounded distributions: the product `T = t·(hi − lo)` carries a factor `F` that is 1 to within
    `κ` (the roundings before the addition), and the sum is rounded once more. With `M` a bound of `|lo|`, `|hi|`, hence of
    the exact value, `|T| ≤ 2M`: the product is off by at most `2Mκ`, and rounding the sum moves it by at most
    `(M + 2Mκ)u`. -/
theorem affine_fl_sub_le {t F lo hi M κ u d m : α} (ht : 0 ≤ t ∧ t ≤ 1) (h : lo ≤ hi) (hF : |F - 1| ≤ κ)
    (hlo : |lo| ≤ M) (hhi : |hi| ≤ M) (hd : |d| ≤ u) (hm : 2 * κ + (1 + 2 * κ) * u ≤ m) :
    |(lo + t * (hi - lo) * F) * (1 + d) - (lo + t * (hi - lo))| ≤ m * M := by
  have hy := affine_mem ht h
  have hyM : |lo + t * (hi - lo)| ≤ M := (abs_le_max_abs_abs hy.1 hy.2).trans (max_le hlo hhi)
  have hT : |t * (hi - lo)| ≤ 1 * (M + M) :=
    abs_mul_le_mul ((abs_of_nonneg ht.1).trans_le ht.2) (abs_sub_le_add hhi hlo)
  generalize t * (hi - lo) = T at hyM hT ⊢
  have hw := abs_mul_le_mul hT hF
  have hr := abs_add_le_add hw (abs_mul_le_mul (abs_add_le_add hyM hw) hd)
  have hid : T * (F - 1) + (lo + T + T * (F - 1)) * d = (lo + T * F) * (1 + d) - (lo + T) := by ring
  rw [hid] at hr
  exact hr.trans (le_of_eq_of_le (by ring) (mul_le_mul_of_nonneg_right hm ((abs_nonneg lo).trans hlo)))

end

theorem sub32_eq_sub {a b : Nat} (h : b ≤ a) (ha : a < 4294967296) : sub32 a b = a - b := by
  unfold sub32; omega

theorem divRoundUp_le_iff {a b : Int} (ha : 0 ≤ a) (hb : 0 < b) (q : Int) : divRoundUp a b ≤ q ↔ a ≤ q * b := by
  unfold divRoundUp
  rw [Int.tdiv_eq_ediv_of_nonneg (by omega), ← Int.lt_add_one_iff, Int.ediv_lt_iff_lt_mul hb, Int.add_mul, Int.one_mul,
    Int.sub_one_lt_iff, Int.add_le_add_iff_right]

theorem divRoundUp_mem {a b : Int} (ha : 0 ≤ a) (hb : 0 < b) : 0 ≤ divRoundUp a b ∧ divRoundUp a b ≤ a := by
  have h1 := Int.mul_le_mul_of_nonneg_left (show 1 ≤ b from hb) ha
  have h2 := mt (divRoundUp_le_iff ha hb (-1)).mp (by omega)
  exact ⟨by omega, (divRoundUp_le_iff ha hb a).mpr (by omega)⟩

theorem or_shiftLeft_eq_add (c : Nat) {x n : Nat} (h : x < 2 ^ n) : x ||| c <<< n = c * 2 ^ n + x := by
  rw [Nat.or_comm, ← Nat.shiftLeft_add_eq_or_of_lt h, Nat.shiftLeft_eq]

theorem pack4_eq_digits {c0 c1 c2 c3 : Nat} (h0 : c0 < 256) (h1 : c1 < 256) (h2 : c2 < 256) (h3 : c3 < 256) :
    pack4 c0 c1 c2 c3 = c0 + 256 * (c1 + 256 * (c2 + 256 * (c3 + 256 * 0))) := by
  unfold pack4
  rw [Nat.shiftLeft_zero, or_shiftLeft_eq_add c1, or_shiftLeft_eq_add c2, or_shiftLeft_eq_add c3]
  all_goals omega

theorem byteOf_digit_zero {c : Nat} (w : Nat) (h : c < 256) : byteOf (c + 256 * w) 0 = c := by
  rw [byteOf, Nat.mul_zero, Nat.shiftRight_zero, Nat.add_mul_mod_self_left, Nat.mod_eq_of_lt h]

theorem byteOf_digit_succ {c : Nat} (w k : Nat) (h : c < 256) : byteOf (c + 256 * w) (k + 1) = byteOf w k := by
  rw [byteOf, byteOf, Nat.mul_succ, Nat.add_comm (8 * k), Nat.shiftRight_add, Nat.shiftRight_eq_div_pow _ 8,
    Nat.add_mul_div_left _ _ (by decide), Nat.div_eq_of_lt h, Nat.zero_add]

theorem srgba8_channels_gen {α : Type} [CNum α] (rnd : α → Nat) (x y z w : α) :
    linear_to_srgba8 rnd x y z w = pack4 (srgb8 rnd x) (srgb8 rnd y) (srgb8 rnd z) (cvt_uint32 rnd (max w 0)) := rfl

end RkVerif.C07
