/-
Helper lemmas for C09 (Any part): the ownership invariant `AInv` of the holder heap (held holders
are allocated, no holder is shared, every allocated holder is owned, fresh ids are unallocated),
the abstraction `absA` and the value-level reference semantics `ARef.step`.

Every operation re-points one Any and changes the heap at one holder that is the Any's own or a fresh
one: a `repoint`, stated like `put` for Optional by what the Any comes to hold.  `repoint_spec` is the one place
where the invariant is re-established; `adtor` (drop what is owned), `give` (null, or a fresh holder) and `mutate`
are `repoint`s (`adtor_eq`, `give_eq`), and `astep_spec` reduces each operation to them.
-/
import RkVerif.Lemmas.C09
namespace RkVerif.C09

structure AInv (σ : AWorld) : Prop where
  noerr : σ.errs = []
  -- used as `h.alloc`; a plain `alloc` is the model's allocation function
  alloc : ∀ i h, σ.a i = some (some h) → (σ.heap h).isSome = true
  inj : ∀ i j h, σ.a i = some (some h) → σ.a j = some (some h) → i = j
  owned : ∀ h, (σ.heap h).isSome = true → ∃ i, σ.a i = some (some h)
  fresh : ∀ h, (σ.heap h).isSome = true → h < σ.next

abbrev ARef := Nat → Option (Option (Tag × Nat))

/-- what an Any object holds: no object / empty / (type tag, value) -/
def absA (σ : AWorld) (i : Nat) : Option (Option (Tag × Nat)) := (σ.a i).map (fun p => p.bind σ.heap)

def ARef.step (r : ARef) : AOp → ARef
  | .ctorDefault i => upd r i (some none)
  | .ctorValue i t x => upd r i (some (some (t, x)))
  | .ctorCopy i j => if i ≠ j ∧ (r j).isSome then upd r i (r j) else r
  | .dtor i => upd r i none
  | .assign i j => if (r i).isSome ∧ (r j).isSome then upd r i (r j) else r
  | .assignValue i t x => if (r i).isSome then upd r i (some (some (t, x))) else r
  | .mutate i t x =>
    match r i with
    | some (some (t', _)) => if t' = t then upd r i (some (some (t, x))) else r
    | _ => r

def ARef.runR : List AOp → ARef
  | [] => fun _ => none
  | op :: earlier => ARef.step (ARef.runR earlier) op

theorem ainv_init : AInv ({} : AWorld) := by
  constructor <;> simp

variable {σ : AWorld} {i j : Nat}

theorem any_shapes (h : AInv σ) (i : Nat) :
    σ.a i = none ∨ σ.a i = some none ∨
      ∃ hd c, σ.a i = some (some hd) ∧ σ.heap hd = some c ∧ ¬ hd = σ.next := by
  cases hi : σ.a i with
  | none => simp
  | some p =>
    cases p with
    | none => simp
    | some hd =>
      have ha := h.alloc i hd hi
      obtain ⟨c, hc⟩ := Option.isSome_iff_exists.mp ha
      right; right; exact ⟨hd, c, rfl, hc, Nat.ne_of_lt (h.fresh hd ha)⟩

theorem absA_upd {τ : AWorld} {v : Option (Option Nat)} (ha : τ.a = upd σ.a i v)
    (hh : ∀ k hd, k ≠ i → σ.a k = some (some hd) → τ.heap hd = σ.heap hd) :
    absA τ = upd (absA σ) i (v.map fun p => p.bind τ.heap) := by
  funext k
  unfold absA
  rw [ha]
  by_cases hk : k = i
  · rw [hk, upd_same, upd_same]
  · rw [upd_other hk, upd_other hk]
    rcases hk' : σ.a k with _ | _ | hd
    · rfl
    · rfl
    · simp [hh k hd hk hk']

theorem heap_next (h : AInv σ) : σ.heap σ.next = none :=
  Option.not_isSome_iff_eq_none.mp fun e => Nat.lt_irrefl _ (h.fresh _ e)

def holder (σ : AWorld) (i : Nat) : Nat :=
  match σ.a i with
  | some (some g) => g
  | _ => σ.next

/-- `σ` with Any `i` holding `v` (no object / empty / a value): `i` points to `holder σ i`, and that holder is
    allocated, exactly if `v` is a value; a new holder advances the allocation counter.  (For an Any without a
    holder that is given no value, the heap is written at the unallocated `σ.next`, which changes nothing.) -/
def repoint (σ : AWorld) (i : Nat) (v : Option (Option (Tag × Nat))) : AWorld :=
  { a := upd σ.a i (v.map (Option.map fun _ => holder σ i)),
    heap := upd σ.heap (holder σ i) (v.bind id),
    next := if (v.bind id).isSome ∧ holder σ i = σ.next then σ.next + 1 else σ.next,
    errs := σ.errs }

theorem repoint_spec {v : Option (Option (Tag × Nat))} (h : AInv σ) :
    AInv (repoint σ i v) ∧ absA (repoint σ i v) = upd (absA σ) i v := by
  have hb : σ.a i = some (some (holder σ i)) ∨ (∀ g', σ.a i ≠ some (some g')) ∧ holder σ i = σ.next := by
    unfold holder
    split
    · exact .inl ‹_›
    · exact .inr ⟨fun g' e => ‹∀ g, σ.a i = some (some g) → False› g' e, rfl⟩
  unfold repoint
  generalize holder σ i = g at hb
  have priv : ∀ k, k ≠ i → σ.a k ≠ some (some g) := fun k hk e => by
    rcases hb with e' | ⟨-, e'⟩
    · exact hk (h.inj k i g e e')
    · have := h.alloc k g e; rw [e', heap_next h] at this; cases this
  refine ⟨?_, ?_⟩
  · -- a holder that `i` has afterwards is `g`, and `g` is allocated exactly then
    have hv : v.map (Option.map fun _ => g) = some (some g) ∧ (v.bind id).isSome = true ∨
        (∀ g', v.map (Option.map fun _ => g) ≠ some (some g')) ∧ v.bind id = none := by
      rcases v with _ | _ | c <;> simp
    generalize v.map (Option.map fun _ => g) = p, v.bind id = w at hv
    obtain ⟨hE, hA, hI, hO, hF⟩ := h
    -- `alloc`, `inj`, `owned`, `fresh`, by distinguishing whether an index is `i` and a holder is `g`: `hb` (as `priv`)
    -- keeps the others and their holders out of the change and says that an allocated holder other than `g` is not
    -- `i`'s; `hv` gives `alloc` and `inj` for `i` and an owner for `g`; a new `g` is counted by the new `next`
    refine ⟨hE, ?_, ?_, ?_, ?_⟩
    · simp only [upd]; grind
    · simp only [upd]; grind
    · simp only [upd]; grind
    · simp only [upd]; grind
  · rw [absA_upd rfl fun k hd hk hk' => upd_other fun (e : hd = g) => priv k hk (e ▸ hk')]
    rcases v with _ | _ | c <;> simp

theorem adtor_eq (h : AInv σ) (i : Nat) : adtor σ i = repoint σ i none := by
  rcases any_shapes h i with h1 | h1 | ⟨g, c, h1, hc, -⟩
  · simp [adtor, repoint, holder, h1, upd_eq_self, heap_next h]
  · simp [adtor, repoint, holder, h1, free, upd_eq_self, heap_next h]
  · simp [adtor, repoint, holder, h1, free, hc]

theorem adtor_spec (h : AInv σ) (i : Nat) : AInv (adtor σ i) ∧ absA (adtor σ i) = upd (absA σ) i none := by
  rw [adtor_eq h]; exact repoint_spec h

def give (σ : AWorld) (i : Nat) : Option (Tag × Nat) → AWorld
  | none => { σ with a := upd σ.a i (some none) }
  | some c => { σ with a := upd σ.a i (some (some σ.next)), heap := upd σ.heap σ.next (some c), next := σ.next + 1 }

theorem give_eq (h : AInv σ) (hi : σ.a i = none) (v : Option (Tag × Nat)) : give σ i v = repoint σ i (some v) := by
  cases v <;> simp [give, repoint, holder, hi, upd_eq_self, heap_next h]

theorem give_spec (h : AInv σ) (hi : σ.a i = none) (v : Option (Tag × Nat)) :
    AInv (give σ i v) ∧ absA (give σ i v) = upd (absA σ) i (some v) := by
  rw [give_eq h hi]; exact repoint_spec h

theorem aclear_eq : aclear σ i = adtor σ i := by
  cases h : σ.a i <;> simp [aclear, apresent, adtor, h]

theorem absA_isSome : (absA σ i).isSome = apresent σ i := by simp [absA, apresent]

theorem replace_spec (h : AInv σ) (i : Nat) (v : Option (Tag × Nat)) :
    AInv (give (adtor σ i) i v) ∧ absA (give (adtor σ i) i v) = upd (absA σ) i (some v) := by
  obtain ⟨h1, e1⟩ := adtor_spec h i
  obtain ⟨h2, e2⟩ := give_spec h1 (i := i) (by simpa [absA] using congrFun e1 i) v
  exact ⟨h2, by rw [e2, e1, upd_upd]⟩

theorem clone_eq_give (h : AInv σ) {p : Option Nat} (hj : σ.a j = some p) :
    { (clone σ p).2 with a := upd (clone σ p).2.a i (some (clone σ p).1) } = give σ i (p.bind σ.heap) := by
  cases p with
  | none => rfl
  | some g =>
    obtain ⟨c, hc⟩ := Option.isSome_iff_exists.mp (h.alloc j g hj)
    simp [clone, hc, alloc, give]

/-- releasing the old holder after allocating the new one is the same as releasing it first -/
theorem free_alloc (h : AInv σ) {old : Option Nat} (hi : σ.a i = some old) (c : Tag × Nat) :
    { free (alloc σ c).2 old with a := upd (free (alloc σ c).2 old).a i (some (some σ.next)) }
      = give (adtor σ i) i (some c) := by
  cases old with
  | none => simp [free, alloc, give, adtor, hi]
  | some g =>
    have hg := h.alloc i g hi
    have hn : g ≠ σ.next := Nat.ne_of_lt (h.fresh g hg)
    obtain ⟨c', hc⟩ := Option.isSome_iff_exists.mp hg
    simp [free, alloc, give, adtor, hi, hc, upd_other hn, upd_comm hn]

theorem mutate_spec (h : AInv σ) {g : Nat} (hi : σ.a i = some (some g)) (c' : Tag × Nat) :
    AInv { σ with heap := upd σ.heap g (some c') } ∧
      absA { σ with heap := upd σ.heap g (some c') } = upd (absA σ) i (some (some c')) := by
  rw [show ({ σ with heap := upd σ.heap g (some c') } : AWorld) = repoint σ i (some (some c')) by
    simp [repoint, holder, hi, upd_eq_self, Nat.ne_of_lt (h.fresh g (h.alloc i g hi))]]
  exact repoint_spec h

theorem astep_assign (h : AInv σ) {old pj : Option Nat} (hi : σ.a i = some old) (hj : σ.a j = some pj) :
    astep σ (.assign i j) = give (adtor σ i) i (pj.bind σ.heap) := by
  cases pj with
  | none => simp [astep, hi, hj, clone, give, adtor]
  | some g =>
    obtain ⟨c, hc⟩ := Option.isSome_iff_exists.mp (h.alloc j g hj)
    simpa [astep, hi, hj, clone, hc, alloc] using free_alloc h hi c

/-- a copy constructor gives `i` what `j` holds (the holder of `j` is not the one `i` drops) -/
theorem astep_ctorCopy (h : AInv σ) {pj : Option Nat} (hij : i ≠ j) (hj : σ.a j = some pj) :
    astep σ (.ctorCopy i j) = give (adtor σ i) i (pj.bind σ.heap) := by
  obtain ⟨h1, e1⟩ := adtor_spec h i
  have ej : absA (adtor σ i) j = some (pj.bind σ.heap) := by
    rw [e1, upd_other (Ne.symm hij)]; simp [absA, hj]
  cases hp : (adtor σ i).a j with
  | none => simp [absA, hp] at ej
  | some p =>
    have : p.bind (adtor σ i).heap = pj.bind σ.heap := by simpa [absA, hp] using ej
    simp only [astep, aclear_eq, apresent, hj, hp]
    rw [if_pos ⟨hij, rfl⟩, clone_eq_give h1 hp, this]

theorem astep_spec (op : AOp) (h : AInv σ) : AInv (astep σ op) ∧ absA (astep σ op) = ARef.step (absA σ) op := by
  cases op with
  | ctorDefault i =>
    rw [show astep σ (.ctorDefault i) = give (adtor σ i) i none by rw [← aclear_eq]; rfl]
    exact replace_spec h i none
  | ctorValue i t x =>
    rw [show astep σ (.ctorValue i t x) = give (adtor σ i) i (some (t, x)) by rw [← aclear_eq]; rfl]
    exact replace_spec h i (some (t, x))
  | dtor i => exact adtor_spec h i
  | ctorCopy i j =>
    by_cases hij : i = j
    · simp [astep, ARef.step, hij]; exact h
    · cases hj : σ.a j with
      | none => simp [astep, ARef.step, absA, apresent, hj]; exact h
      | some pj =>
        rw [astep_ctorCopy h hij hj, show ARef.step (absA σ) (.ctorCopy i j) = upd (absA σ) i (some (pj.bind σ.heap)) by
          simp [ARef.step, absA, hij, hj]]
        exact replace_spec h i _
  | assign i j =>
    cases hi : σ.a i with
    | none => simp [astep, ARef.step, absA, hi]; exact h
    | some old =>
      cases hj : σ.a j with
      | none => simp [astep, ARef.step, absA, hi, hj]; exact h
      | some pj =>
        rw [astep_assign h hi hj, show ARef.step (absA σ) (.assign i j) = upd (absA σ) i (some (pj.bind σ.heap)) by
          simp [ARef.step, absA, hi, hj]]
        exact replace_spec h i _
  | assignValue i t x =>
    cases hi : σ.a i with
    | none => simp [astep, ARef.step, absA, hi]; exact h
    | some old =>
      rw [show astep σ (.assignValue i t x) = give (adtor σ i) i (some (t, x)) by
            simpa [astep, hi, alloc] using free_alloc h hi (t, x),
          show ARef.step (absA σ) (.assignValue i t x) = upd (absA σ) i (some (some (t, x))) by
            simp [ARef.step, absA, hi]]
      exact replace_spec h i _
  | mutate i t x =>
    rcases any_shapes h i with h1 | h1 | ⟨g, ⟨t', v⟩, h1, hc, -⟩
    · simp [astep, ARef.step, absA, h1]; exact h
    · simp [astep, ARef.step, absA, h1]; exact h
    · by_cases ht : t' = t
      · simpa [astep, ARef.step, absA, h1, hc, ht] using mutate_spec h h1 (t, x)
      · simp [astep, ARef.step, absA, h1, hc, ht]; exact h

theorem ainv_runR (hist : List AOp) : AInv (arunR hist) := by
  induction hist with
  | nil => exact ainv_init
  | cons op earlier ih => exact (astep_spec op ih).1

/-! ## Observers: on a well-formed world `==` and `toString` read only what the objects hold -/

theorem anyToString_abs (h : AInv σ) (i : Nat) :
    anyToString σ i = some (((absA σ i).bind id).map Prod.fst) := by
  rcases any_shapes h i with h1 | h1 | ⟨hd, c, h1, hc, -⟩ <;> simp [anyToString, absA, *]

theorem anyEq_abs (h : AInv σ) (i j : Nat) :
    anyEq σ i j = some (match absA σ i, absA σ j with
      | some none, some b => b.isNone
      | some (some c), some b => isSame c b
      | _, _ => false) := by
  rcases any_shapes h i with h1 | h1 | ⟨hd, c, h1, hc, -⟩ <;>
  rcases any_shapes h j with g1 | g1 | ⟨gd, d, g1, gc, -⟩ <;>
    simp [anyEq, absA, deref, *]

/-- brings the shapes of two Any objects `i ≠ j` into the context, and that their holders differ -/
macro "c09_ashapes2" h:ident i:ident j:ident hij:ident : tactic => `(tactic|
  (rcases any_shapes $h $i with h1 | h1 | ⟨hd, c, h1, hc, hn⟩ <;>
   rcases any_shapes $h $j with g1 | g1 | ⟨gd, d, g1, gc, gn⟩ <;>
   try (have hgh : ¬ gd = hd := fun e => $hij (AInv.inj $h $i $j hd h1 (e ▸ g1))
        have hhg : ¬ hd = gd := fun e => hgh e.symm)))

end RkVerif.C09
