/- C16 — round trip of documents: header, top-level loop, `parseXML`. -/
import RkVerif.Lemmas.C16Node
namespace RkVerif.C16

variable {b : Array UInt8} {s f : Nat}

theorem parseHeader_ev {hd : Header} {t : Bytes} (hne : hd ≠ .none) (hok : headerOK hd = true)
    (hf : b.size ≤ f + s) : Ev b s (parseHeaderWith parseString f) (printHeader hd) t true := by
  cases hd with
  | none => exact absurd rfl hne
  | short =>
    -- 120, 109, 108: "xml", as the model writes it
    refine .bind (consumeWord_ev [cLT, cQuest, 120, 109, 108]) (.pre (peekAt_ev rfl) ?_)
    exact .pre (.pre (peekAt_ev rfl) .pure) (.post (consumeWord_ev [cQuest, cGT]) .pure)
  | long ws attrs =>
    simp only [headerOK, Bool.and_eq_true] at hok
    obtain ⟨⟨hne, hws⟩, hattrs⟩ := hok
    obtain _ | ⟨w0, wr⟩ := ws
    · cases hne
    simp only [wsOK, allB_cons, Bool.and_eq_true] at hws
    rw [printHeader]
    refine .bind (consumeWord_ev _) (.pre (peekAt_ev rfl) ?_)
    rw [if_neg (mt beq_iff.1 (ne_of_class hws.1 rfl))]
    refine .pre .pure (.pre peek_ev ?_)
    simp only [hws.1, Bool.not_true, Bool.false_eq_true, if_false]
    refine .cons .adv (.bind (skipWhites_ev hws.2 (.append (.attrs hattrs (.cons rfl))) (by simp; omega)) ?_)
    rw [headerPropLoop_eq _ _ []]
    refine .bind (.post (propLoop_ev attrs (by decide) (by decide) hattrs (by simp; omega)) .pure) ?_
    exact .post (consumeWord_ev [cQuest, cGT]) .pure

theorem tops_head : ∀ tops : List Top, Stop isWhite (printTops tops ++ [0])
  | [] => .cons rfl
  | .elem e w :: r => by
    rw [printTops, List.append_assoc]
    exact .elem e rfl
  | .comment body w :: r => .cons rfl

theorem topLoop_ev (tops : List Top) : ∀ {s f : Nat} {acc : List Node},
    tops.all topOK = true → b.size + 2 ≤ f + s →
    Ev b s (topLoop parseString f acc) (printTops tops) [0] (acc ++ eraseTops tops) := by
  induction tops with
  | nil =>
    intro s f acc _ hf
    refine Ev.succ f (by simp) (by omega) ?_
    rintro f rfl
    rw [eraseTops, List.append_nil]
    exact .pre peek_ev .pure
  | cons x r ih =>
    intro s f acc hall hf
    simp only [List.all_cons, Bool.and_eq_true] at hall
    have hr := tops_head r
    refine Ev.succ f (by simp) (by omega) ?_
    rintro f rfl
    cases x with
    | elem e w =>
      have hx := hall.1
      simp only [topOK, Bool.and_eq_true] at hx
      obtain ⟨c, r', ee, hc⟩ := printElem_head e hx.1
      have hlen := congrArg List.length ee
      rw [List.length_cons] at hlen
      rw [printTops, eraseTops, List.append_cons acc, ee]
      refine .pre peek_ev (.pre (skipComment_false fun _ => ⟨_, _, rfl, ne_of_class hc rfl⟩) ?_)
      rw [← ee]
      refine .bind (parseNode_ev f e hx.1 (by omega)) ?_
      exact .bind (skipWhites_ev hx.2 hr (by omega)) (ih hall.2 (by omega))
    | comment body w =>
      have hx := hall.1
      simp only [topOK, Bool.and_eq_true] at hx
      have := printComment_length body
      rw [printTops, eraseTops]
      refine .pre peek_ev (.bind (skipComment_true hx.1 (by omega)) ?_)
      exact .bind (skipWhites_ev hx.2 hr (by omega)) (ih hall.2 (by omega))

/-- the part of `parseXML` after the header (the block is `parseXMLWith`'s, word for word: see
    `openTag_ev`) -/
theorem body_ev {initWs : Bytes} {tops : List Top} (hw : wsOK initWs = true)
    (hall : tops.all topOK = true) (hf : b.size + 2 ≤ f + s) :
    Ev b s (do skipWhites f
               let doc ← topLoop parseString f []
               let c ← peek
               if c != 0 then fail .runtimeError else pure doc : XmlM (List Node))
      (initWs ++ printTops tops) [0] (eraseTops tops) :=
  .bind (skipWhites_ev hw (tops_head tops) (by omega))
    (.post (topLoop_ev tops hall (by omega)) (.pre peek_ev .pure))

theorem noHeader_head {initWs : Bytes} {tops : List Top} (hw : wsOK initWs = true)
    (hall : tops.all topOK = true) :
    ∃ c t, initWs ++ printTops tops ++ [0] = c :: t ∧
      (c = cLT → ∃ c1 t1, t = c1 :: t1 ∧ c1 ≠ cQuest) := by
  cases initWs with
  | cons w0 wr =>
    simp only [wsOK, allB_cons, Bool.and_eq_true] at hw
    exact ⟨w0, _, rfl, fun e => absurd e (ne_of_class hw.1 rfl)⟩
  | nil =>
    cases tops with
    | nil => exact ⟨0, [], rfl, fun e => absurd e (by decide)⟩
    | cons x r =>
      cases x with
      | elem e w =>
        simp only [List.all_cons, topOK, Bool.and_eq_true] at hall
        obtain ⟨c, r', ee, hc⟩ := printElem_head e hall.1.1
        exact ⟨cLT, _, by simp only [printTops, ee]; rfl, fun _ => ⟨c, _, rfl, ne_of_class hc rfl⟩⟩
      | comment body w => exact ⟨cLT, _, rfl, fun _ => ⟨cBang, _, rfl, by decide⟩⟩

theorem toArray_size_toList (l : Bytes) : l.toArray.toList = l := by simp

theorem parseXML_ev (d : Doc) (hd : docOK d = true) (hf : b.size + 2 ≤ f + s) :
    Ev b s (parseXMLWith parseString f) (printDoc d) [0] (eraseDoc d) := by
  obtain ⟨header, initWs, tops⟩ := d
  simp only [docOK, Bool.and_eq_true] at hd
  obtain ⟨⟨hh, hw⟩, hall⟩ := hd
  rw [printDoc]
  by_cases hn : header = .none
  · subst hn
    obtain ⟨c, t, e, hc⟩ := noHeader_head hw hall
    rw [printHeader, List.nil_append]
    refine .pre (peekAt_ev (k := 0) (by rw [e]; rfl)) (.pre (a := false) ?_ ?_)
    · split
      · next hlt =>
        obtain ⟨c1, t1, rfl, hc1⟩ := hc (beq_iff.1 hlt)
        refine .pre (peekAt_ev (k := 1) (by rw [e]; rfl)) ?_
        rw [Bool.eq_false_iff.2 (mt beq_iff.1 hc1)]
        exact .pure
      · exact .pure
    exact .pre .pure (body_ev hw hall (by omega))
  · obtain ⟨r, er⟩ : ∃ r, printHeader header = cLT :: cQuest :: r := by
      cases header with
      | none => exact absurd rfl hn
      | short => exact ⟨_, rfl⟩
      | long ws attrs => exact ⟨_, rfl⟩
    refine .pre (peekAt_ev (k := 0) (by rw [er]; rfl)) ?_
    refine .pre (.pre (peekAt_ev (k := 1) (by rw [er]; rfl)) .pure) ?_
    exact .bind (parseHeader_ev hn hh (by omega)) (body_ev hw hall (by omega))

end RkVerif.C16
