/-
Specification functions and lemmas for property C18 (model: Model/C18.lean).  Core Lean only.
* Splitting: `runs p s` — the maximal non-empty runs of characters not satisfying `p` — is the common
  specification of `split`, `tokenize` and the delimiter-set `split`.  A string is a sequence of
  delimiters and maximal delimiter-free blocks (`blocks_induction`); `runs` and each splitter are
  related through what they do on a delimiter and on such a block.
* FileName: every name is `path ++ name ++ e` with `Parts path name e`, `e` empty or a dotted
  extension (`filename_parts`), and `parts_eval` says what each accessor returns on a string written
  that way; `mkFile` is the identity on `Normal` names.
* ArgumentList: `parseLoop` and the shifting loop of `removeArgs` in closed form for a cursor anywhere
  in the list (`parseLoop_append`, `shiftLoop_eq`).
-/
import RkVerif.Model.C18

namespace RkVerif.C18

theorem length_dropWhile_le' (q : Char → Bool) (l : Str) : (l.dropWhile q).length ≤ l.length :=
  (List.dropWhile_sublist q).length_le

/-- Maximal non-empty runs of non-delimiter characters (`p` = "is a delimiter"). -/
def runs (p : Char → Bool) (s : Str) : List Str :=
  match s with
  | [] => []
  | c :: cs =>
      if p c then runs p cs
      else (c :: cs.takeWhile (fun x => !p x)) :: runs p (cs.dropWhile (fun x => !p x))
termination_by s.length
decreasing_by
  · simp
  · have := length_dropWhile_le' (fun x => !p x) cs
    simp; omega

theorem runs_nil (p : Char → Bool) : runs p [] = [] := by simp [runs]

theorem runs_cons_delim (p : Char → Bool) (c : Char) (cs : Str) (h : p c = true) :
    runs p (c :: cs) = runs p cs := by
  rw [runs]; simp [h]

theorem runs_cons_tok (p : Char → Bool) (c : Char) (cs : Str) (h : p c = false) :
    runs p (c :: cs) = (c :: cs.takeWhile (fun x => !p x)) :: runs p (cs.dropWhile (fun x => !p x)) := by
  rw [runs]; simp [h]

theorem blocks_induction {motive : Str → Prop} (p : Char → Bool) (nil : motive [])
    (delim : ∀ d s, p d = true → motive s → motive (d :: s))
    (tok : ∀ t s, t ≠ [] → (∀ x ∈ t, p x = false) → (∀ x ∈ s.head?, p x = true) → motive s →
      motive (t ++ s)) (s : Str) : motive s := by
  induction s using runs.induct p with
  | case1 => exact nil
  | case2 c cs hc ih => exact delim c cs hc ih
  | case3 c cs hc ih =>
    rw [← List.takeWhile_append_dropWhile (p := fun x => !p x) (l := cs), ← List.cons_append]
    refine tok _ _ (List.cons_ne_nil _ _) ?_ ?_ ih
    · simpa [hc] using List.all_eq_true.mp (List.all_takeWhile (p := fun x => !p x) (l := cs))
    · have := List.head?_dropWhile_not (fun x => !p x) cs
      intro x hx
      rw [Option.mem_def.mp hx] at this
      simpa using this

theorem runs_tok {p : Char → Bool} {t s : Str} (hne : t ≠ []) (ht : ∀ x ∈ t, p x = false)
    (hs : ∀ x ∈ s.head?, p x = true) : runs p (t ++ s) = t :: runs p s := by
  obtain _ | ⟨a, t⟩ := t
  · exact absurd rfl hne
  · simp only [List.forall_mem_cons] at ht
    have ht' : ∀ x ∈ t, (!p x) = true := by simpa using ht.2
    rw [List.cons_append, runs_cons_tok p a _ ht.1, List.takeWhile_append_of_pos ht',
      List.dropWhile_append_of_pos ht']
    cases s with
    | nil => simp
    | cons d s => simp [hs d rfl]

theorem runs_free {p : Char → Bool} {t s : Str} (ht : ∀ x ∈ t, p x = false)
    (hs : ∀ x ∈ s.head?, p x = true) : runs p (t ++ s) = [t].filter (· ≠ []) ++ runs p s := by
  by_cases hne : t = []
  · simp [hne]
  · simp [hne, runs_tok hne ht hs]

theorem runs_skip {p : Char → Bool} {sep rest : Str} (hs : ∀ x ∈ sep, p x = true) :
    runs p (sep ++ rest) = runs p rest := by
  induction sep with
  | nil => rfl
  | cons a sep ih =>
    simp only [List.forall_mem_cons] at hs
    rw [List.cons_append, runs_cons_delim p a _ hs.1, ih hs.2]

theorem runs_flatten (p : Char → Bool) (s : Str) : (runs p s).flatten = s.filter (fun x => !p x) := by
  induction s using blocks_induction p with
  | nil => simp [runs_nil]
  | delim d s hd ih => simp [runs_cons_delim, hd, ih]
  | tok t s hne ht hs ih =>
    rw [runs_tok hne ht hs, List.flatten_cons, ih, List.filter_append,
      (List.filter_eq_self (l := t)).mpr (by simpa using ht)]

def joinWith (d : Char) : List Str → Str
  | [] => []
  | [t] => t
  | t :: ts => t ++ d :: joinWith d ts

theorem joinWith_cons_ne {d : Char} {t : Str} {ts : List Str} (h : ts ≠ []) :
    joinWith d (t :: ts) = t ++ d :: joinWith d ts := by
  cases ts with
  | nil => exact absurd rfl h
  | cons a b => rfl

theorem joinWith_cons (d : Char) (t : Str) (ts : List Str) :
    joinWith d (t :: ts) = t ++ (ts.map (d :: ·)).flatten := by
  induction ts generalizing t with
  | nil => simp [joinWith]
  | cons t2 ts ih => simp [joinWith, ih]

theorem runs_joinWith (p : Char → Bool) (d : Char) (hd : p d = true) (ts : List Str)
    (hts : ∀ t ∈ ts, ∀ x ∈ t, p x = false) :
    runs p (joinWith d ts) = ts.filter (· ≠ []) := by
  induction ts with
  | nil => simp [joinWith, runs_nil]
  | cons t ts ih =>
    simp only [List.forall_mem_cons] at hts
    cases ts with
    | nil => simpa [joinWith, runs_nil] using runs_free (s := []) hts.1
    | cons t2 ts =>
      rw [joinWith_cons_ne (List.cons_ne_nil _ _), runs_free hts.1 (by simp [hd]),
        runs_cons_delim p d _ hd, ih hts.2]
      exact (List.filter_append ..).symm

def weave : List (Str × Str) → Str
  | [] => []
  | (sep, t) :: rest => sep ++ t ++ weave rest

theorem head?_weave {q : Char → Prop} {pr : Str × Str} {prs : List (Str × Str)} {rest : Str}
    (hsep : ∀ x ∈ pr.1, q x) (hne : pr.1 ≠ []) : ∀ x ∈ (weave (pr :: prs) ++ rest).head?, q x := by
  obtain ⟨_ | ⟨d, sep⟩, t⟩ := pr
  · exact absurd rfl hne
  · intro x hx; cases hx; exact hsep _ List.mem_cons_self

/-- A scanner `G` (second argument: the character just read, if any) that skips a block of delimiters
    and emits one piece for a token block in front of a delimiter or the end maps a weave to the
    pieces of its tokens.  `runs` (by `runs_skip`, `runs_tok`) and `splitSetAux` (by `ss_skip`, `ss_tok`
    below) are such scanners. -/
theorem scan_weave {G : Str → Option Char → List Str} {out : Option Char → Str → Str} {isd ist : Char → Prop}
    (hskip : ∀ {sep rest prev}, (∀ x ∈ sep, isd x) → G (sep ++ rest) prev = G rest (sep.getLast?.or prev))
    (htok : ∀ {t rest prev}, t ≠ [] → (∀ x ∈ t, ist x) → (∀ x ∈ rest.head?, isd x) →
      G (t ++ rest) prev = out prev t :: G rest t.getLast?)
    (hnil : ∀ prev, G [] prev = [])
    {first : Str × Str} {pairs : List (Str × Str)} {tail : Str} (prev : Option Char)
    (hseps : ∀ pr ∈ first :: pairs, ∀ x ∈ pr.1, isd x)
    (hne : ∀ pr ∈ pairs, pr.1 ≠ [])
    (htoks : ∀ pr ∈ first :: pairs, pr.2 ≠ [] ∧ ∀ x ∈ pr.2, ist x)
    (htail : ∀ x ∈ tail, isd x) :
    G (weave (first :: pairs) ++ tail) prev =
      out (first.1.getLast?.or prev) first.2 :: pairs.map (fun pr => out pr.1.getLast? pr.2) := by
  induction pairs generalizing first prev with
  | nil =>
    simp only [List.forall_mem_cons] at hseps htoks
    rw [weave, weave, List.append_nil, List.append_assoc, hskip hseps.1,
      htok htoks.1.1 htoks.1.2 fun x hx => htail x (List.mem_of_mem_head? hx),
      ← List.append_nil tail, hskip htail, hnil]
    rfl
  | cons second pairs ih =>
    simp only [List.forall_mem_cons] at hseps hne htoks
    rw [weave, List.append_assoc, List.append_assoc, hskip hseps.1,
      htok htoks.1.1 htoks.1.2 (head?_weave hseps.2.1 hne.1),
      ih _ (List.forall_mem_cons.mpr hseps.2) hne.2 (List.forall_mem_cons.mpr htoks.2)]
    -- `second.1` is not empty, so `prev` no longer matters
    rw [List.map_cons, List.getLast?_eq_some_getLast hne.1]
    rfl

def isD (d : Char) : Char → Bool := fun x => x == d

theorem isD_eq_true {d x : Char} : isD d x = true ↔ x = d := beq_iff_eq
theorem isD_eq_false {d x : Char} : isD d x = false ↔ x ≠ d := beq_eq_false_iff_ne

theorem tokenizeAux_eq_filter (k : Nat) (d : Char) (s cur : Str) :
    tokenizeAux k d s cur = (split1Aux d s cur).filter (·.length > k) := by
  induction s generalizing cur with
  | nil => cases cur <;> simp [tokenizeAux, split1Aux, List.filter_cons]
  | cons c cs ih =>
    by_cases hc : c = d
    · by_cases hk : cur.length > k <;> simp [tokenizeAux, split1Aux, hc, ih, hk]
    · simp [tokenizeAux, split1Aux, hc, ih]

theorem split1Aux_free_append (d : Char) (t rest cur : Str) (ht : ∀ x ∈ t, x ≠ d) :
    split1Aux d (t ++ rest) cur = split1Aux d rest (cur ++ t) := by
  induction t generalizing cur with
  | nil => simp
  | cons a t ih =>
    simp only [List.forall_mem_cons] at ht
    simp [split1Aux, ht.1, ih _ ht.2]

theorem ss_skip {ds : Str} {k : Bool} {sep rest : Str} {prev : Option Char} (hs : ∀ x ∈ sep, x ∈ ds) :
    splitSetAux ds k (sep ++ rest) prev none = splitSetAux ds k rest (sep.getLast?.or prev) none := by
  induction sep generalizing prev with
  | nil => simp
  | cons a sep ih =>
    simp only [List.forall_mem_cons] at hs
    simp [splitSetAux, hs.1, ih hs.2, List.getLast?_cons]

theorem ss_tok_acc {ds : Str} {k : Bool} {t rest cur : Str} {prev : Option Char} (ht : ∀ x ∈ t, x ∉ ds) :
    splitSetAux ds k (t ++ rest) prev (some cur) =
      splitSetAux ds k rest (t.getLast?.or prev) (some (cur ++ t)) := by
  induction t generalizing prev cur with
  | nil => simp
  | cons a t ih =>
    simp only [List.forall_mem_cons] at ht
    simp [splitSetAux, ht.1, ih ht.2, List.getLast?_cons]

theorem ss_tok {ds : Str} {k : Bool} {t rest : Str} {prev : Option Char} (hne : t ≠ [])
    (ht : ∀ x ∈ t, x ∉ ds) (hr : ∀ x ∈ rest.head?, x ∈ ds) :
    splitSetAux ds k (t ++ rest) prev none =
      ((if k then prev.toList else []) ++ t) :: splitSetAux ds k rest t.getLast? none := by
  obtain _ | ⟨a, t⟩ := t
  · exact absurd rfl hne
  · simp only [List.forall_mem_cons] at ht
    rw [List.cons_append, splitSetAux, if_neg ht.1, ss_tok_acc ht.2]
    obtain _ | ⟨d, rest⟩ := rest
    · simp [splitSetAux]
    · simp [splitSetAux, hr d rfl]

theorem splitSet_eq_runs (ds s : Str) : splitSet ds false s = runs (· ∈ ds) s := by
  suffices ∀ prev, splitSetAux ds false s prev none = runs (· ∈ ds) s from this none
  induction s using blocks_induction (· ∈ ds) with
  | nil => simp [splitSetAux, runs_nil]
  | delim d s hd ih =>
    intro prev
    rw [runs_cons_delim _ d s hd, ← ih (some d), splitSetAux, if_pos (of_decide_eq_true hd)]
  | tok t s hne ht hs ih =>
    intro prev
    rw [runs_tok hne ht hs, ss_tok hne (fun x hx => of_decide_eq_false (ht x hx))
      (fun x hx => of_decide_eq_true (hs x hx)), ih]
    rfl

theorem split1Aux_eq_nil (d : Char) (s cur : Str) : split1Aux d s cur = [] ↔ s = [] ∧ cur = [] := by
  induction s generalizing cur with
  | nil => cases cur <;> simp [split1Aux]
  | cons c cs ih => rw [split1Aux]; split <;> simp [ih]

/-- the one trailing delimiter that `std::getline` swallows at the end of the input, if there is one:
    what `split` cannot give back -/
def endFix (d : Char) (s : Str) : Str := if s.getLast? = some d then [d] else []

theorem endFix_cons {d c : Char} {s : Str} (h : s ≠ [] ∨ c ≠ d) : endFix d (c :: s) = endFix d s := by
  cases s with
  | nil => simpa [endFix] using h
  | cons a b => simp [endFix, List.getLast?_cons_cons]

theorem split1Aux_join (d : Char) (s cur : Str) :
    joinWith d (split1Aux d s cur) ++ endFix d s = cur ++ s := by
  induction s generalizing cur with
  | nil => cases cur <;> simp [split1Aux, joinWith, endFix]
  | cons c cs ih =>
    rw [split1Aux]
    split
    · subst c
      by_cases hcs : cs = []
      · simp [hcs, split1Aux, joinWith, endFix]
      · rw [joinWith_cons_ne (mt (split1Aux_eq_nil d cs []).mp (by simp [hcs])),
          endFix_cons (Or.inl hcs), List.append_assoc, List.cons_append, ih []]
        rfl
    · rw [endFix_cons (Or.inr ‹_›), ih]; simp

theorem findSep_type (t rest : Str) (ht : ∀ x ∈ t, x ≠ ':') :
    findSep (t ++ ':' :: '/' :: '/' :: rest) = some (t, rest) := by
  induction t with
  | nil => simp [findSep]
  | cons a t ih =>
    simp only [List.forall_mem_cons] at ht
    rw [List.cons_append, findSep]
    · simp [ih ht.2]
    · exact fun _ h => absurd h ht.1

def noSepIn : Str → Prop
  | [] => True
  | [_] => True
  | c :: c2 :: cs => ¬(c = ':' ∧ c2 = '/') ∧ noSepIn (c2 :: cs)

theorem findSep_none (s : Str) (h : noSepIn s) : findSep s = none := by
  induction s with
  | nil => rfl
  | cons c cs ih =>
    unfold findSep
    split
    · simp [noSepIn] at h
    · cases cs with
      | nil => rfl
      | cons c2 cs2 => rw [ih h.2]; rfl

theorem splitEq_free_append (n rest : Str) (hn : ∀ x ∈ n, x ≠ '=') :
    splitEq (n ++ rest) = (n ++ (splitEq rest).1, (splitEq rest).2) := by
  induction n with
  | nil => rfl
  | cons a n ih =>
    simp only [List.forall_mem_cons] at hn
    simp [splitEq, hn.1, ih hn.2]

theorem splitEq_name (n v : Str) (hn : ∀ x ∈ n, x ≠ '=') : splitEq (n ++ '=' :: v) = (n, v) := by
  simp [splitEq_free_append n _ hn, splitEq]

theorem splitEq_noeq (s : Str) (hs : ∀ x ∈ s, x ≠ '=') : splitEq s = (s, []) := by
  simpa [splitEq] using splitEq_free_append s [] hs

theorem splitLast_none_iff {c : Char} {s : Str} : splitLast c s = none ↔ c ∉ s := by
  induction s with
  | nil => simp [splitLast]
  | cons x xs ih =>
    rw [splitLast]
    cases h : splitLast c xs with
    | none => simp [ih.mp h, eq_comm]
    | some p => simp [mt ih.mpr (h ▸ nofun)]

theorem splitLast_some {c : Char} {s b a : Str} (h : splitLast c s = some (b, a)) :
    s = b ++ c :: a ∧ c ∉ a := by
  induction s generalizing b with
  | nil => simp [splitLast] at h
  | cons x xs ih =>
    rw [splitLast] at h
    cases h' : splitLast c xs with
    | none =>
      have := splitLast_none_iff.mp h'
      by_cases hx : x = c <;> simp_all
    | some p =>
      simp [h'] at h
      obtain ⟨rfl, rfl⟩ := h
      simpa using ih h'

theorem splitLast_append (c : Char) (l r : Str) :
    splitLast c (l ++ r) = match splitLast c r with
      | some (b, a) => some (l ++ b, a)
      | none => (splitLast c l).map fun (b, a) => (b, a ++ r) := by
  induction l with
  | nil => rw [List.nil_append]; cases splitLast c r <;> rfl
  | cons x l ih =>
    rw [List.cons_append, splitLast, ih]
    cases splitLast c r <;> cases h : splitLast c l <;> simp [splitLast, h]

theorem splitLast_append_cons {c : Char} {b a : Str} (ha : c ∉ a) : splitLast c (b ++ c :: a) = some (b, a) := by
  simp [splitLast_append, splitLast, splitLast_none_iff.mpr ha]

def ValidPath (pf : Str) : Prop := pf = [] ∨ ∃ p, pf = p ++ ['/']

theorem path_base_append {pf b : Str} (hp : ValidPath pf) (hb : '/' ∉ b) :
    path (pf ++ b) = pf ∧ base (pf ++ b) = b := by
  rcases hp with rfl | ⟨p, rfl⟩
  · simp [path, base, splitLast_none_iff.mpr hb]
  · simp [path, base, splitLast_append_cons hb]

theorem filename_path_base (f : Str) : path f ++ base f = f ∧ '/' ∉ base f ∧ ValidPath (path f) := by
  unfold path base
  cases h : splitLast '/' f with
  | none => exact ⟨rfl, splitLast_none_iff.mp h, Or.inl rfl⟩
  | some p =>
    have := splitLast_some h
    exact ⟨by simp [← this.1], this.2, Or.inr ⟨_, rfl⟩⟩

def Parts (pf n e : Str) : Prop :=
  ValidPath pf ∧ '/' ∉ n ∧ ((e = [] ∧ '.' ∉ n) ∨ ∃ x, e = '.' :: x ∧ '/' ∉ x ∧ '.' ∉ x)

theorem parts_eval {pf n e : Str} (h : Parts pf n e) :
    path (pf ++ n ++ e) = pf ∧ base (pf ++ n ++ e) = n ++ e ∧ name (pf ++ n ++ e) = n ∧
    ext (pf ++ n ++ e) = e.tail ∧ dropExt (pf ++ n ++ e) = mkFile (pf ++ n) ∧
    ∀ e', setExt (pf ++ n ++ e) e' = mkFile (pf ++ n ++ e') := by
  obtain ⟨hp, hn, ⟨rfl, hd⟩ | ⟨x, rfl, hx, hd⟩⟩ := h
  · have hpb := path_base_append hp hn
    have hnd : splitLast '.' n = none := splitLast_none_iff.mpr hd
    -- a dot, if any, lies in the directory part, so a separator follows it
    have : ∀ q, splitLast '.' (pf ++ n) = some q → '/' ∈ q.2 := by
      rcases hp with rfl | ⟨p, rfl⟩
      · simp [hnd]
      · rw [List.append_assoc, splitLast_append, splitLast_none_iff.mpr (by simp [hd])]
        cases splitLast '.' p <;> simp
    cases h : splitLast '.' (pf ++ n) with
    | none => simp [name, ext, dropExt, setExt, h, hpb, hnd]
    | some q => simp [name, ext, dropExt, setExt, h, this q h, hpb, hnd]
  · have hpb := path_base_append (b := n ++ '.' :: x) hp (by simp [hn, hx])
    have hsl : splitLast '.' (pf ++ (n ++ '.' :: x)) = some (pf ++ n, x) :=
      List.append_assoc .. ▸ splitLast_append_cons hd
    simp [name, ext, dropExt, setExt, hsl, hx, hpb, (path_base_append hp hn).2,
      splitLast_append_cons (b := n) hd]

theorem filename_parts (f : Str) : ∃ e, Parts (path f) (name f) e ∧ f = path f ++ name f ++ e ∧
    base f = name f ++ e ∧ ext f = e.tail ∧ dropExt f = mkFile (path f ++ name f) ∧
    ∀ e', setExt f e' = mkFile (path f ++ name f ++ e') := by
  obtain ⟨hf, hb, hp⟩ := filename_path_base f
  have key : ∃ n e, Parts (path f) n e ∧ f = path f ++ n ++ e := by
    cases h : splitLast '.' (base f) with
    | none => exact ⟨base f, [], ⟨hp, hb, Or.inl ⟨rfl, splitLast_none_iff.mp h⟩⟩, by simp [hf]⟩
    | some q =>
      have hs := splitLast_some h
      rw [hs.1] at hb
      simp only [List.mem_append, List.mem_cons, not_or] at hb
      exact ⟨q.1, '.' :: q.2, ⟨hp, hb.1, Or.inr ⟨_, rfl, hb.2.2, hs.2⟩⟩, by rw [List.append_assoc, ← hs.1, hf]⟩
  obtain ⟨n, e, hP, hf'⟩ := key
  have := parts_eval hP
  rw [← hf'] at this
  obtain ⟨-, h2, rfl, h4, h5⟩ := this
  exact ⟨e, hP, hf', h2, h4, h5⟩

/-- what the `FileName` constructors establish -/
def Normal (f : Str) : Prop := (∀ x ∈ f, x ≠ '\\') ∧ f.getLast? ≠ some '/'

theorem rstripSep_id {s : Str} (h : s.getLast? ≠ some '/') : rstripSep s = s := by
  rw [← List.head?_reverse] at h
  unfold rstripSep
  cases hr : s.reverse with
  | nil => simpa using hr
  | cons a l =>
    rw [hr] at h
    rw [List.dropWhile_cons_of_neg (by simpa using h), ← hr, List.reverse_reverse]

theorem rstripSep_last (s : Str) : (rstripSep s).getLast? ≠ some '/' := by
  intro h
  have := List.head?_dropWhile_not (fun x => decide (x = '/')) s.reverse
  rw [rstripSep, List.getLast?_reverse] at h
  simp [h] at this

theorem mem_rstripSep {s : Str} {x : Char} (h : x ∈ rstripSep s) : x ∈ s :=
  List.mem_reverse.mp ((List.dropWhile_sublist _).subset (List.mem_reverse.mp h))

theorem mkFile_normal (s : Str) : Normal (mkFile s) := by
  refine ⟨fun x hx => ?_, rstripSep_last _⟩
  obtain ⟨c, -, rfl⟩ := List.mem_map.mp (mem_rstripSep hx)
  split
  · decide
  · exact fun e => ‹¬_› (Or.inl e)

theorem map_slash_id {f : Str} (h : ∀ x ∈ f, x ≠ '\\') :
    f.map (fun c => if c = '\\' ∨ c = '/' then '/' else c) = f := by
  rw [List.map_congr_left (g := id) fun c hc => ?_, List.map_id]
  by_cases h2 : c = '/' <;> simp [h c hc, h2]

theorem mkFile_id {f : Str} (h : Normal f) : mkFile f = f := by
  rw [mkFile, map_slash_id h.1, rstripSep_id h.2]

theorem mkFile_idem (s : Str) : mkFile (mkFile s) = mkFile s := mkFile_id (mkFile_normal s)

theorem mkFile_snoc_sep (s : Str) : mkFile (s ++ ['/']) = mkFile s := by
  simp [mkFile, rstripSep]

theorem mem_of_getLast? {α : Type} (l : List α) (x : α) (h : l.getLast? = some x) : x ∈ l :=
  List.mem_of_getLast? h

theorem normal_of_not_mem {b : Str} (h1 : '\\' ∉ b) (h2 : '/' ∉ b) : Normal b :=
  ⟨fun _ hc e => h1 (e ▸ hc), fun h => h2 (List.mem_of_getLast? h)⟩

theorem normal_append {a b : Str} (ha : ∀ c ∈ a, c ≠ '\\') (hb : Normal b) (hne : b ≠ []) :
    Normal (a ++ b) := by
  refine ⟨fun c hc => (List.mem_append.mp hc).elim (ha c) (hb.1 c), ?_⟩
  rw [List.getLast?_append, List.getLast?_eq_some_getLast hne]
  simpa [List.getLast?_eq_some_getLast hne] using hb.2

/-- `'.' :: x` is a well-formed extension argument of `setExt`/`addExt` -/
def ExtOk (x : Str) : Prop := '.' ∉ x ∧ '/' ∉ x ∧ '\\' ∉ x

theorem parts_ext {pf n x : Str} (hp : ValidPath pf) (hn : '/' ∉ n) (hb : ∀ c ∈ pf ++ n, c ≠ '\\')
    (hx : ExtOk x) :
    mkFile (pf ++ n ++ '.' :: x) = pf ++ n ++ '.' :: x ∧ path (pf ++ n ++ '.' :: x) = pf ∧
    name (pf ++ n ++ '.' :: x) = n ∧ ext (pf ++ n ++ '.' :: x) = x := by
  obtain ⟨h1, -, h3, h4, -⟩ := parts_eval ⟨hp, hn, Or.inr ⟨x, rfl, hx.2.1, hx.1⟩⟩
  have hd : Normal ('.' :: x) := normal_of_not_mem (by simp [hx.2.2]) (by simp [hx.2.1])
  exact ⟨mkFile_id (normal_append hb hd (List.cons_ne_nil _ _)), h1, h3, h4⟩

variable {α : Type}

theorem remove_eq (args : List α) (w n : Nat) : remove args w n = args.take w ++ args.drop (w + n) := by
  induction n generalizing args with
  | zero => simp [remove]
  | succ n ih =>
    rw [remove, ih]
    apply List.ext_getElem?
    intro i
    simp only [List.getElem?_append, List.getElem?_take, List.getElem?_drop, List.getElem?_eraseIdx,
      List.length_take, List.length_eraseIdx]
    -- both sides at index `i`: `args[i]` below `w`, `args[i + n + 1]` from `w` on
    grind

theorem remove_append (done todo : List α) (n : Nat) :
    remove (done ++ todo) done.length n = done ++ todo.drop n := by
  rw [remove_eq, List.take_left' rfl, ← List.drop_drop, List.drop_append_length]

/-- Specification of `parseAndRemove`: walk the arguments once; an argument on which the parser
    answers `k > 0` is dropped together with the `k-1` arguments after it, every other one is kept. -/
def keepUnconsumed (f : α → Nat) (args : List α) : List α :=
  match args with
  | [] => []
  | a :: rest => if f a = 0 then a :: keepUnconsumed f rest else keepUnconsumed f (rest.drop (f a - 1))
termination_by args.length
decreasing_by
  · simp
  · simp; omega

theorem keepUnconsumed_nil (f : α → Nat) : keepUnconsumed f [] = [] := by simp [keepUnconsumed]

theorem keepUnconsumed_cons (f : α → Nat) (a : α) (rest : List α) :
    keepUnconsumed f (a :: rest) =
      if f a = 0 then a :: keepUnconsumed f rest else keepUnconsumed f (rest.drop (f a - 1)) := by
  rw [keepUnconsumed]

theorem parseLoop_append (f : α → Nat) (fuel : Nat) (done todo : List α) (h : todo.length < fuel) :
    parseLoop f fuel (done ++ todo) done.length = done ++ keepUnconsumed f todo := by
  induction fuel generalizing done todo with
  | zero => omega
  | succ fuel ih =>
    cases todo with
    | nil => simp [parseLoop, keepUnconsumed_nil]
    | cons a rest =>
      rw [parseLoop, keepUnconsumed_cons]
      simp only [List.getElem?_append_right (Nat.le_refl _), Nat.sub_self, List.getElem?_cons_zero]
      split
      · simpa using ih (done ++ [a]) rest (by simpa using h)
      · obtain ⟨k, hk⟩ := Nat.exists_eq_succ_of_ne_zero ‹_›
        rw [remove_append, hk]
        exact ih done (rest.drop k) (by simp at h ⊢; omega)

theorem shiftLoop_eq (h todo i : Nat) (av : List α) (hi : h ≤ i) (hn : i + todo ≤ av.length) :
    shiftLoop h todo i av = av.take (i - h) ++ (av.drop i).take todo ++ av.drop (i - h + todo) := by
  induction todo generalizing i av with
  | zero => simp [shiftLoop]
  | succ todo ih =>
    have hil : i < av.length := by omega
    simp only [shiftLoop, List.getElem?_eq_getElem hil]
    -- the step wrote `av[i]` to position `i - h`: one more entry in front, the rest is untouched
    rw [ih (i + 1) _ (by omega) (by rw [List.length_set]; omega), List.drop_set_of_lt (by omega),
      List.drop_set_of_lt (by omega), Nat.sub_add_comm hi, List.take_add_one, List.take_set_of_le (Nat.le_refl _),
      List.getElem?_set_self (by omega), List.drop_eq_getElem_cons hil, List.take_succ_cons]
    simp [Nat.add_assoc, Nat.add_comm 1]

theorem shiftLoop_length (h todo i : Nat) (av : List α) : (shiftLoop h todo i av).length = av.length := by
  induction todo generalizing i av with
  | zero => simp [shiftLoop]
  | succ todo ih =>
    rw [shiftLoop]
    cases hx : av[i]? with
    | none => simp
    | some x => simp [ih]

end RkVerif.C18
