/- C16 — evaluation lemmas for the round trip: what each helper of the XML.cpp model returns when
   the buffer, from the cursor on, starts with the text the printer emits for the corresponding
   construct.  `Suf b s l`: the zero-terminated buffer from index `s` on is exactly `l`.
   `Ev b s m x r a`: on such a buffer with `l = x ++ r`, the helper `m` returns `a` and stops behind
   `x`.  A lemma has the printed construct as `x` and, where the helper looks one byte ahead to
   stop, a condition `Stop p r` on what follows.  Fuel is bounded as in the safety lemmas
   (`b.size + k ≤ f + s`, the same `k` for the same helper), so a later call, further on in the
   buffer, needs no new argument.  A proof walks through the helper's `do`-block with the rules
   `Ev.bind`, `.cons`, `.pre`, `.post`, one statement at a time; the cursor is never computed by
   hand.  This file: bytes, identifiers, quoted values, properties, comments, text trimming. -/
import RkVerif.Lemmas.C16
namespace RkVerif.C16

variable {α β : Type} {b : Array UInt8} {s f : Nat}

def Suf (b : Array UInt8) (s : Nat) (l : Bytes) : Prop := (b.toList ++ [0]).drop s = l

theorem Suf.zero (b : Array UInt8) : Suf b 0 (b.toList ++ [0]) := rfl

theorem Suf.get {k : Nat} {l : Bytes} {c : UInt8} (h : Suf b s l) (hk : l[k]? = some c) :
    rd b (s + k) = .ok c := by
  rw [← h, List.getElem?_drop] at hk
  unfold rd
  split
  · next h1 => rw [List.getElem?_append_left (by simpa using h1)] at hk; simpa [h1] using hk
  · next h1 =>
    rw [List.getElem?_append_right (by simpa using h1)] at hk
    split
    · next h2 => simpa [h2] using hk
    · next h2 => rw [List.getElem?_eq_none (by simp; omega)] at hk; cases hk

theorem Suf.le {l : Bytes} (h : Suf b s l) (hl : l ≠ []) : s ≤ b.size := by
  have := congrArg List.length h
  have := List.length_pos_iff.2 hl
  simp at *
  omega

theorem Suf.app {x t : Bytes} (h : Suf b s (x ++ t)) : Suf b (s + x.length) t := by
  unfold Suf at *
  rw [← List.drop_drop, h]; simp

theorem Suf.step {c : UInt8} {t : Bytes} (h : Suf b s (c :: t)) : Suf b (s + 1) t :=
  Suf.app (x := [c]) h

def Ev (b : Array UInt8) (s : Nat) (m : XmlM α) (x r : Bytes) (a : α) : Prop :=
  Suf b s (x ++ r) → m b s = .ok (a, s + x.length)

section rules
variable {m : XmlM α} {g : α → XmlM β} {x y r : Bytes} {a : α} {c : β}

theorem Ev.bind (h1 : Ev b s m x (y ++ r) a) (h2 : Ev b (s + x.length) (g a) y r c) :
    Ev b s (m >>= g) (x ++ y) r c := fun h => by
  rw [List.append_assoc] at h
  rw [bind_apply, h1 h, List.length_append, ← Nat.add_assoc]
  exact h2 h.app

theorem Ev.cons {w : UInt8} (h1 : Ev b s m [w] (y ++ r) a) (h2 : Ev b (s + 1) (g a) y r c) :
    Ev b s (m >>= g) (w :: y) r c :=
  Ev.bind h1 h2

theorem Ev.pre (h1 : Ev b s m [] (y ++ r) a) (h2 : Ev b s (g a) y r c) : Ev b s (m >>= g) y r c :=
  Ev.bind h1 h2

theorem Ev.post (h1 : Ev b s m x r a) (h2 : Ev b (s + x.length) (g a) [] r c) : Ev b s (m >>= g) x r c :=
  fun h => by rw [bind_apply, h1 h]; exact h2 h.app

theorem Ev.pure : Ev b s (pure a) [] r a := fun _ => rfl

theorem Ev.pos {g : Nat → XmlM β} (h : Ev b s (g s) x r c) : Ev b s (pos >>= g) x r c := h

theorem Ev.adv {w : UInt8} : Ev b s adv [w] r () := fun _ => rfl

/-- opens the proof for a loop: fuel that covers the rest of the buffer is not used up while input
    remains, so the loop unfolds by one iteration (`refine Ev.succ f (by simp) (by omega) ?_;
    rintro f rfl`) -/
theorem Ev.succ (f : Nat) (hl : x ++ r ≠ []) (hf : b.size < f + s)
    (h : ∀ f', f = f' + 1 → Ev b s m x r a) : Ev b s m x r a :=
  fun hs => h (f - 1) (by have := hs.le hl; omega) hs

end rules

theorem peekAt_ev {k : Nat} {l : Bytes} {c : UInt8} (hk : l[k]? = some c) : Ev b s (peekAt k) [] l c :=
  fun h => by simp only [peekAt, h.get hk]; rfl

theorem peek_ev {c : UInt8} {t : Bytes} : Ev b s peek [] (c :: t) c := peekAt_ev rfl

theorem rdAbs_ev {s0 : Nat} {c : UInt8} {t : Bytes} (h : Suf b s0 (c :: t)) : rdAbs s0 b s = .ok (c, s) := by
  have : rd b s0 = .ok c := h.get (k := 0) rfl
  simp only [rdAbs, this]

theorem consume_ev {w : UInt8} {t : Bytes} : Ev b s (consume w) [w] t () :=
  .pre (.pre peek_ev (by rw [if_neg (mt bne_iff.1 fun hw => hw rfl)]; exact .pure)) .adv

theorem expect2_ev {w0 w1 c : UInt8} {t : Bytes} (hc : c = w0 ∨ c = w1) :
    Ev b s (expect2 w0 w1) [] (c :: t) () := by
  refine .pre peek_ev ?_
  rw [if_neg fun hn => ?_]; exact .pure
  rw [Bool.and_eq_true, bne_iff, bne_iff] at hn
  exact hc.elim hn.1 hn.2

theorem consumeWord_ev (ws : Bytes) {t : Bytes} : ∀ {s : Nat}, Ev b s (consumeWord ws) ws t () := by
  induction ws with
  | nil => exact .pure
  | cons w ws ih => exact .cons consume_ev ih

@[simp] theorem allB_nil (p : UInt8 → Bool) : allB p [] = true := rfl
@[simp] theorem allB_cons (p : UInt8 → Bool) (c : UInt8) (t : Bytes) :
    allB p (c :: t) = (p c && allB p t) := rfl

theorem allB_eq_all (p : UInt8 → Bool) (l : Bytes) : allB p l = l.all p := by
  induction l with
  | nil => rfl
  | cons c t ih => rw [allB_cons, ih, List.all_cons]

theorem allB_append (p : UInt8 → Bool) (x y : Bytes) : allB p (x ++ y) = (allB p x && allB p y) := by
  simp only [allB_eq_all, List.all_append]

theorem allB_imp {p q : UInt8 → Bool} (h : ∀ c, p c = true → q c = true) {x : Bytes}
    (hx : allB p x = true) : allB q x = true := by
  rw [allB_eq_all, List.all_eq_true] at *
  exact fun c hc => h c (hx c hc)

theorem isWhite_cases {c : UInt8} (h : isWhite c = true) : c = 32 ∨ c = 9 ∨ c = 10 ∨ c = 13 := by
  simpa only [isWhite, Bool.or_eq_true, beq_iff, or_assoc] using h

theorem isWhite_not_idChar {c : UInt8} (h : isWhite c = true) : isIdChar c = false := by
  rcases isWhite_cases h with rfl | rfl | rfl | rfl <;> rfl

theorem isWhite_isSpace {c : UInt8} (h : isWhite c = true) : isSpace c = true := by
  rcases isWhite_cases h with rfl | rfl | rfl | rfl <;> rfl

theorem isIdStart_idChar {c : UInt8} (h : isIdStart c = true) : isIdChar c = true := by
  simp only [isIdStart, isIdChar, Bool.or_eq_true] at *
  rcases h with h | h
  · exact .inl (.inl (.inl h))
  · exact .inl (.inr h)

theorem isIdStart_not_white {c : UInt8} (h : isIdStart c = true) : isWhite c = false :=
  Bool.eq_false_iff.2 fun hw =>
    Bool.false_ne_true ((isWhite_not_idChar hw).symm.trans (isIdStart_idChar h))

def Stop (p : UInt8 → Bool) (l : Bytes) : Prop := ∃ c t, l = c :: t ∧ p c = false

theorem Stop.cons {p : UInt8 → Bool} {c : UInt8} {t : Bytes} (h : p c = false) : Stop p (c :: t) :=
  ⟨c, t, rfl, h⟩

theorem Stop.append {p : UInt8 → Bool} {l r : Bytes} (h : Stop p l) : Stop p (l ++ r) := by
  obtain ⟨c, t, rfl, hc⟩ := h
  exact .cons hc

theorem Stop.ws {w r : Bytes} (hw : wsOK w = true) (hr : w = [] → Stop isIdChar r) :
    Stop isIdChar (w ++ r) := by
  cases w with
  | nil => exact hr rfl
  | cons c w =>
    simp only [wsOK, allB_cons, Bool.and_eq_true] at hw
    exact .cons (isWhite_not_idChar hw.1)

theorem scanWhile_ev {test : UInt8 → Bool} (w : Bytes) {r : Bytes} (hr : Stop test r) :
    ∀ {s f : Nat}, allB test w = true → b.size + 1 ≤ f + s → Ev b s (scanWhile test f) w r () := by
  induction w with
  | nil =>
    intro s f _ hf
    obtain ⟨c, t, rfl, hc⟩ := hr
    refine Ev.succ f (by simp) (by omega) ?_
    rintro f rfl
    exact .pre peek_ev (by rw [hc]; exact .pure)
  | cons x w ih =>
    intro s f hw hf
    refine Ev.succ f (by simp) (by omega) ?_
    rintro f rfl
    simp only [allB_cons, Bool.and_eq_true] at hw
    refine .pre peek_ev ?_
    rw [hw.1, if_pos rfl]
    exact .cons .adv (ih hw.2 (by omega))

theorem skipWhites_ev {w r : Bytes} (hw : wsOK w = true) (hr : Stop isWhite r)
    (hf : b.size + 1 ≤ f + s) : Ev b s (skipWhites f) w r () := by
  rw [skipWhites_eq]; exact scanWhile_ev w hr hw hf

theorem stringLoop_ev {q : UInt8} (hq : q ≠ cBSl) (v : Bytes) {t : Bytes} : ∀ {s f : Nat},
    valOK q v = true → b.size + 1 ≤ f + s → Ev b s (stringLoop q f) v (q :: t) () := by
  -- the cases of `valOK`: end of the value, a lone backslash (no value), a backslash pair, a plain byte
  induction v using valOK.induct with
  | case1 =>
    intro s f _ hf
    refine Ev.succ f (by simp) (by omega) ?_
    rintro f rfl
    exact .pre peek_ev (by rw [if_neg (mt bne_iff.1 fun hq => hq rfl)]; exact .pure)
  | case2 c hb => intro s f hv; simp only [valOK, hb, if_true, Bool.false_eq_true] at hv
  | case3 c hb y v ih =>
    intro s f hv hf
    refine Ev.succ f (by simp) (by omega) ?_
    rintro f rfl
    simp only [valOK, hb, if_true, Bool.and_eq_true, bne_iff] at hv
    refine .pre peek_ev ?_
    simp only [bne_iff.2 (ne_of_beq hb hq.symm), hb, if_true]
    refine .cons .adv (.pre peek_ev ?_)
    rw [if_neg (mt beq_iff.1 hv.1)]
    exact .cons .adv (ih hv.2 (by omega))
  | case4 c v hb ih =>
    intro s f hv hf
    refine Ev.succ f (by simp) (by omega) ?_
    rintro f rfl
    have hb := Bool.eq_false_iff.2 hb
    rw [valOK.eq_def] at hv
    simp only [hb, Bool.false_eq_true, if_false, Bool.and_eq_true] at hv
    refine .pre peek_ev ?_
    simp only [hv.1.2, hb, Bool.false_eq_true, if_true, if_false]
    refine .pre .pure (.pre peek_ev ?_)
    rw [if_neg (mt beq_iff.1 (bne_iff.1 hv.1.1))]
    exact .cons .adv (ih hv.2 (by omega))

theorem valOK_nz {q : UInt8} {v : Bytes} : valOK q v = true → allB (· != 0) v = true := by
  induction v using valOK.induct with
  | case1 => exact fun _ => rfl
  | case2 c hb => simp only [valOK, hb, if_true, Bool.false_eq_true, false_imp_iff]
  | case3 c hb y v ih =>
    simp only [valOK, hb, if_true, allB_cons, Bool.and_eq_true]
    exact fun hv => ⟨bne_iff.2 (ne_of_beq hb (by decide)), hv.1, ih hv.2⟩
  | case4 c v hb ih =>
    rw [valOK.eq_def]
    simp only [Bool.eq_false_iff.2 hb, Bool.false_eq_true, if_false, allB_cons, Bool.and_eq_true]
    exact fun hv => ⟨hv.1.1, ih hv.2⟩

theorem takeWhile_nz {x : Bytes} (h : allB (· != 0) x = true) : x.takeWhile (· != 0) = x := by
  induction x with
  | nil => rfl
  | cons c t ih =>
    simp only [allB_cons, Bool.and_eq_true] at h
    simp [h.1, ih h.2]

theorem Suf.slice {bg : Nat} {x r : Bytes} (h : Suf b bg (x ++ r)) (hr : r ≠ []) :
    (b.extract bg (bg + x.length)).toList = x := by
  have hl := h.app.le hr
  unfold Suf at h
  rw [List.drop_append_of_le_length (by simp; omega)] at h
  have h2 := congrArg (List.take x.length) h
  rw [List.take_append_of_le_length (by simp; omega)] at h2
  simpa [List.extract] using h2

theorem makeString_ev {bg en : Nat} {x r l : Bytes} (h : Suf b bg (x ++ r)) (hr : r ≠ [])
    (hx : allB (· != 0) x = true) (he : bg + x.length = en) : Ev b s (makeString bg en) [] l x := fun _ => by
  unfold makeString
  rw [if_neg (by omega), ← he, h.slice hr, takeWhile_nz hx]; rfl

theorem identOK_cons {name : Bytes} (h : identOK name = true) :
    ∃ c r, name = c :: r ∧ isIdStart c = true ∧ allB isIdChar r = true := by
  cases name with
  | nil => cases h
  | cons c r => simp only [identOK, Bool.and_eq_true] at h; exact ⟨c, r, rfl, h⟩

theorem identOK_pos : ∀ {name : Bytes}, identOK name = true → 1 ≤ name.length
  | _ :: _, _ => Nat.succ_pos _

theorem parseIdentifier_ev {name r : Bytes} (hn : identOK name = true) (hr : Stop isIdChar r)
    (hf : b.size ≤ f + s) : Ev b s (parseIdentifier f) name r (some name) := fun h => by
  obtain ⟨c0, rest, rfl, hc0, hrest⟩ := identOK_cons hn
  have hnz : allB (· != 0) (c0 :: rest) = true := by
    simp only [allB_cons, Bool.and_eq_true, bne_iff]
    exact ⟨ne_of_class hc0 rfl, allB_imp (fun c hc => bne_iff.2 (ne_of_class hc rfl)) hrest⟩
  have hne : r ≠ [] := by obtain ⟨c, t, rfl, -⟩ := hr; simp
  refine Ev.pre peek_ev ?_ h
  rw [hc0, if_pos rfl, identLoop_eq]
  refine .pos (.cons .adv (.post (scanWhile_ev rest hr hrest (by omega)) (.pos ?_)))
  exact .pre (makeString_ev h hne hnz (by rw [List.length_cons]; omega)) .pure

theorem parseIdentifier_none {c : UInt8} {t : Bytes} (hc : isIdStart c = false) :
    Ev b s (parseIdentifier f) [] (c :: t) none :=
  .pre peek_ev (by rw [hc]; exact .pure)

theorem parseQuoted_ev {q : UInt8} {v t : Bytes} (hq : q ≠ cBSl) (hv : valOK q v = true)
    (hf : b.size ≤ f + s) : Ev b s (parseQuoted stringLoop q f) (q :: (v ++ [q])) t v := fun h =>
  have h1 : Suf b (s + 1) (v ++ q :: t) := by simpa using h.step
  Ev.cons consume_ev (.pos (.bind (stringLoop_ev hq v hv (by omega)) (.pos
    (.pre (makeString_ev h1 (List.cons_ne_nil _ _) (valOK_nz hv) rfl) (.post consume_ev .pure))))) h

theorem quoteOf_eq_or (dq : Bool) : quoteOf dq = cDQ ∨ quoteOf dq = cSQ := by
  cases dq <;> simp [quoteOf]

theorem parseString_ev {dq : Bool} {v t : Bytes} (hv : valOK (quoteOf dq) v = true) (hf : b.size ≤ f + s) :
    Ev b s (parseString f) (quoteOf dq :: (v ++ [quoteOf dq])) t v := by
  refine .pre peek_ev ?_
  rcases quoteOf_eq_or dq with hq | hq <;> rw [hq] at hv ⊢
  · exact parseQuoted_ev (by decide) hv hf
  · exact parseQuoted_ev (by decide) hv hf

theorem printAttrCore_length (a : Attr) :
    (printAttrCore a).length = a.key.length + a.ws1.length + 1 + a.ws2.length + 1 + a.val.length + 1 := by
  simp [printAttrCore]; omega

theorem parseProp_ev {a : Attr} {t : Bytes} (ha : attrOK a = true) (hf : b.size ≤ f + s) :
    Ev b s (parsePropWith parseString f) (printAttrCore a) t (some (a.key, a.val)) := by
  simp only [attrOK, Bool.and_eq_true] at ha
  obtain ⟨⟨⟨⟨hk, hw1⟩, hw2⟩, -⟩, hv⟩ := ha
  have hq : isWhite (quoteOf a.dq) = false := by
    rcases quoteOf_eq_or a.dq with hq | hq <;> rw [hq] <;> rfl
  have := identOK_pos hk
  refine .bind (parseIdentifier_ev hk (.append (.ws hw1 fun _ => .cons rfl)) (by omega)) ?_
  refine .bind (skipWhites_ev hw1 (.cons rfl) (by omega)) (.cons consume_ev ?_)
  refine .bind (skipWhites_ev hw2 (.cons hq) (by omega)) (.pre (expect2_ev (quoteOf_eq_or _)) ?_)
  exact .post (parseString_ev hv (by omega)) .pure

theorem Stop.attrs {as : List Attr} {r : Bytes} (has : as.all attrOK = true) (hr : Stop isWhite r) :
    Stop isWhite (printAttrs as ++ r) := by
  cases as with
  | nil => exact hr
  | cons a as =>
    simp only [List.all_cons, attrOK, Bool.and_eq_true] at has
    obtain ⟨c, k, hk, hc, -⟩ := identOK_cons has.1.1.1.1.1
    simp only [printAttrs, printAttrCore, hk]
    exact .cons (isIdStart_not_white hc)

theorem parseProp_none {c : UInt8} {t : Bytes} (hc : isIdStart c = false) :
    Ev b s (parsePropWith parseString f) [] (c :: t) none :=
  .pre (parseIdentifier_none hc) .pure

theorem propLoop_ev (as : List Attr) {c : UInt8} {t : Bytes} (hc : isIdStart c = false)
    (hcw : isWhite c = false) : ∀ {s f : Nat} {acc : List (Bytes × Bytes)}, as.all attrOK = true →
    b.size + 1 ≤ f + s → Ev b s (propLoop parseString f acc) (printAttrs as) (c :: t) (propsOf acc as) := by
  induction as with
  | nil =>
    intro s f acc _ hf
    refine Ev.succ f (by simp) (by omega) ?_
    rintro f rfl
    exact .pre (parseProp_none hc) .pure
  | cons a as ih =>
    intro s f acc has hf
    refine Ev.succ f (by simp) (by omega) ?_
    rintro f rfl
    simp only [List.all_cons, Bool.and_eq_true] at has
    have hw3 : wsOK a.ws3 = true := by
      have := has.1; simp only [attrOK, Bool.and_eq_true] at this; exact this.1.2
    have := printAttrCore_length a
    refine .bind (parseProp_ev has.1 (by omega)) ?_
    exact .bind (skipWhites_ev hw3 (.attrs has.2 (.cons hcw)) (by omega)) (ih has.2 (by omega))

theorem startsClose_append (l t : Bytes) (h : 3 ≤ l.length) : startsClose (l ++ t) = startsClose l := by
  match l, h with
  | a :: b :: c :: r, _ => rfl

theorem commentLoop_stop {t : Bytes} : Ev b s (commentLoop (f + 1)) [] (cDash :: cDash :: cGT :: t) () :=
  .pre (peekAt_ev rfl) (.pre (peekAt_ev rfl) (.pre (peekAt_ev rfl) .pure))

/-- `e`: the two bytes behind `x` that the test may look at -/
theorem commentLoop_step {x y1 y2 : UInt8} {l r t : Bytes} (e : l ++ r = y1 :: y2 :: t) (hx : x ≠ 0)
    (hs : startsClose (x :: y1 :: y2 :: t) = false) (h : Ev b (s + 1) (commentLoop f) l r ()) :
    Ev b s (commentLoop (f + 1)) (x :: l) r () := by
  have next : Ev b s (adv >>= fun _ => commentLoop f) (x :: l) r () := .cons .adv h
  have hk : (x :: l) ++ r = x :: y1 :: y2 :: t := congrArg (x :: ·) e
  refine .pre (peekAt_ev (k := 0) (by rw [hk]; rfl)) ?_
  rw [if_neg (mt beq_iff.1 hx)]
  split
  · next h0 =>
    refine .pre (peekAt_ev (k := 1) (by rw [hk]; rfl)) ?_
    split
    · next h1 =>
      refine .pre (peekAt_ev (k := 2) (by rw [hk]; rfl)) ?_
      simp only [startsClose, h0, h1, Bool.true_and] at hs
      rw [hs]; exact next
    · exact next
  · exact next

theorem commentLoop_ev (body : Bytes) {t : Bytes} : ∀ {s f : Nat},
    firstClose (body ++ [cDash, cDash, cGT]) = body.length → allB (· != 0) body = true →
    b.size + 1 ≤ f + s → Ev b s (commentLoop f) body (cDash :: cDash :: cGT :: t) () := by
  induction body with
  | nil =>
    intro s f _ _ hf
    refine Ev.succ f (by simp) (by omega) ?_
    rintro f rfl
    exact commentLoop_stop
  | cons c body ih =>
    intro s f hc hnz hf
    refine Ev.succ f (by simp) (by omega) ?_
    rintro f rfl
    simp only [allB_cons, Bool.and_eq_true, bne_iff] at hnz
    rw [List.cons_append, firstClose, List.length_cons] at hc
    split at hc
    · cases hc
    · next hs =>
      have ih := ih (s := s + 1) (f := f) (by omega) hnz.2 (by omega)
      -- the two bytes behind `c` come from `body` or from the `-->` behind it
      rcases body with _ | ⟨y1, _ | ⟨y2, r⟩⟩ <;>
        exact commentLoop_step rfl hnz.1 (Bool.eq_false_iff.2 hs) ih

theorem printComment_length (body : Bytes) : (printComment body).length = body.length + 5 := by
  simp [printComment]

theorem consumeComment_ev {body t : Bytes} (hb : commentOK body = true) (hf : b.size ≤ f + s) :
    Ev b s (consumeComment f) (printComment body) t () := by
  simp only [commentOK, Bool.and_eq_true, beq_iff_eq] at hb
  refine .cons consume_ev (.cons consume_ev (.bind (commentLoop_ev body hb.2 hb.1 (by omega)) ?_))
  exact .cons consume_ev (.cons consume_ev consume_ev)

theorem skipComment_true {body t : Bytes} (hb : commentOK body = true) (hf : b.size ≤ f + s) :
    Ev b s (skipComment f) (printComment body) t true :=
  .pre (peekAt_ev rfl) (.pre (peekAt_ev rfl) (.post (consumeComment_ev hb hf) .pure))

theorem skipComment_false {c : UInt8} {t : Bytes} (hc : c = cLT → ∃ c1 t1, t = c1 :: t1 ∧ c1 ≠ cBang) :
    Ev b s (skipComment f) [] (c :: t) false := by
  refine .pre (peekAt_ev rfl) ?_
  split
  · next h0 =>
    obtain ⟨c1, t1, rfl, hc1⟩ := hc (beq_iff.1 h0)
    exact .pre (peekAt_ev rfl) (by rw [if_neg (mt beq_iff.1 hc1)]; exact .pure)
  · exact .pure

theorem lastNotSpace_split : ∀ {x : Bytes}, lastNotSpace x = true → ∃ x' l, x = x' ++ [l] ∧ isSpace l = false
  | [c], h => ⟨[], c, rfl, by simpa [lastNotSpace] using h⟩
  | c :: d :: r, h => by
    obtain ⟨x', l, e, hl⟩ := lastNotSpace_split (x := d :: r) h
    exact ⟨c :: x', l, by rw [e]; rfl, hl⟩

theorem trimBack_ws (w : Bytes) : ∀ {p : Nat} {r : Bytes}, Suf b p (w ++ r) → wsOK w = true →
    trimBack (p + w.length) b s = trimBack p b s := by
  induction w with
  | nil => intros; rfl
  | cons c w ih =>
    intro p r h hw
    simp only [wsOK, allB_cons, Bool.and_eq_true] at hw
    rw [List.length_cons, Nat.add_comm w.length, ← Nat.add_assoc, ih h.step hw.2, trimBack, bind_apply,
      rdAbs_ev h]
    simp only [isWhite_isSpace hw.1, if_true]

theorem trimBack_ev {s0 : Nat} {tx w rest : Bytes} (h : Suf b s0 (tx ++ (w ++ rest)))
    (htx : lastNotSpace tx = true) (hw : wsOK w = true) :
    trimBack (s0 + tx.length + w.length) b s = .ok (s0 + tx.length, s) := by
  obtain ⟨x', l, rfl, hl⟩ := lastNotSpace_split htx
  have h' : Suf b s0 (x' ++ l :: (w ++ rest)) := by simpa using h
  rw [trimBack_ws w h.app hw, List.length_append, ← Nat.add_assoc, List.length_singleton, trimBack,
    bind_apply, rdAbs_ev h'.app]
  simp only [hl, Bool.false_eq_true, if_false]; rfl

end RkVerif.C16
