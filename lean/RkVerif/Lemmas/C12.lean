/-
Helper lemmas for property C12 (model: Model/C12.lean).
Buffer: what the consumer holds followed by what is pending is the pushes in the order they took effect
(`delivered_runR`); the per-producer and counting forms follow from it.
Value: the inductive invariant `Inv` of the producer/consumer system (`inv_runR`), and the consumer catching up
once the producer is silent (`finishUpdate_quiet`, `runFrom_quiet`, `Inv.get_of_quiet`).
-/
import RkVerif.Model.C12

namespace RkVerif.C12

section TBuf
variable {P α : Type}

theorem pushedAll_cons (e : BEv P α) (hist : List (BEv P α)) :
    pushedAll (e :: hist) = pushedAll hist ++ pushedAll [e] := by
  cases e <;> simp [pushedAll]

theorem delivered_step (s : BSys P α) (e : BEv P α) : (s.step e).delivered = s.delivered ++ pushedAll [e] := by
  cases e <;> simp [BSys.step, BSys.exec, BSys.delivered, TBuf.pushBack, TBuf.consume, pushedAll]

theorem delivered_runR (hist : List (BEv P α)) : (BSys.runR hist).delivered = pushedAll hist := by
  induction hist with
  | nil => rfl
  | cons e earlier ih => rw [BSys.runR, delivered_step, ih, ← pushedAll_cons]

theorem pushedAll_filter [DecidableEq P] (p : P) (hist : List (BEv P α)) :
    (pushedAll hist).filter (fun e => e.1 = p) = (pushesOf p hist).map (fun x => (p, x)) := by
  induction hist with
  | nil => rfl
  | cons e earlier ih =>
    cases e with
    | push q x => by_cases h : q = p <;> simp [pushedAll, pushesOf, ih, h]
    | consume | size | empty => exact ih

theorem count_map_mk [DecidableEq P] [DecidableEq α] (p : P) (x : α) (l : List α) :
    (l.map fun y => (p, y)).count (p, x) = l.count x := by
  induction l with
  | nil => rfl
  | cons y l ih => simp [List.count_cons, ih]

theorem pushedAll_count [DecidableEq P] [DecidableEq α] (p : P) (x : α) (hist : List (BEv P α)) :
    (pushedAll hist).count (p, x) = (pushesOf p hist).count x := by
  rw [← List.count_filter (p := fun e => e.1 = p) (by simp), pushedAll_filter, count_map_mk]

theorem buffer_prefix_of_no_consume (hist more : List (BEv P α))
    (h : ∀ e ∈ more, e.isConsume = false) :
    (BSys.runR hist).buf.buffer <+: (BSys.runR (more ++ hist)).buf.buffer := by
  induction more with
  | nil => exact List.prefix_rfl
  | cons e rest ih =>
    have ih' := ih fun e he => h e (List.mem_cons_of_mem _ he)
    cases e with
    | push p x => exact ih'.trans (List.prefix_append _ _)
    | consume => cases h .consume List.mem_cons_self
    | size | empty => exact ih'

end TBuf

section TVal
variable {V : Type}

open VSys

theorem valAt_append {c0 : Option V} {as : List V} {v : V} {k : Nat} (hk : k ≤ as.length) :
    valAt c0 (as ++ [v]) k = valAt c0 as k := by
  unfold valAt
  split
  · rfl
  · rw [List.getElem?_append_left (by omega)]

theorem valAt_pos {c0 : Option V} {as : List V} {k : Nat} (hk : 0 < k) : valAt c0 as k = as[k - 1]? :=
  if_neg (Nat.ne_of_gt hk)

theorem valAt_length (c0 : Option V) (as : List V) : valAt c0 as as.length = as.getLast?.or c0 := by
  cases as with
  | nil => rfl
  | cons a l => simp [valAt, List.getLast?_eq_getElem?]

def Obs.ok (c0 : Option V) (as : List V) : Obs V → Prop
  | .got k v => k ≤ as.length ∧ v = valAt c0 as k
  | .upd r kb ka n => (r = true ↔ kb < ka) ∧ ka = n ∧ kb ≤ ka ∧ ka ≤ as.length

theorem Obs.ok.append {c0 : Option V} {as : List V} {o : Obs V} (h : o.ok c0 as) (v : V) :
    o.ok c0 (as ++ [v]) := by
  cases o with
  | got k w =>
    obtain ⟨h1, h2⟩ := h
    exact ⟨by simp; omega, by rw [valAt_append h1]; exact h2⟩
  | upd r kb ka n =>
    obtain ⟨h1, h2, h3, h4⟩ := h
    exact ⟨h1, h2, h3, by simp; omega⟩

structure Inv (c0 : Option V) (s : VSys V) : Prop where
  le : s.upTo ≤ s.assigned.length
  flagT : s.tv.newValue = true → s.tv.queued = s.assigned.getLast? ∧ s.upTo < s.assigned.length
  flagF : s.tv.newValue = false → s.upTo = s.assigned.length
  pcI : s.pc = .install → s.tv.newValue = true
  cur : s.tv.current = valAt c0 s.assigned s.upTo
  logSorted : (s.log.map Obs.k).Pairwise (· ≤ ·)
  logOk : ∀ o ∈ s.log, o.k ≤ s.upTo ∧ o.ok c0 s.assigned

theorem inv_init (c0 : Option V) : Inv c0 (VSys.init c0) := by
  constructor <;> simp [VSys.init, valAt]

theorem Inv.record {c0 : Option V} {s : VSys V} (h : Inv c0 s) {o : Obs V} (hk : o.k = s.upTo)
    (ho : o.ok c0 s.assigned) : Inv c0 { s with log := s.log ++ [o] } :=
  { h with
    logSorted := by
      rw [List.map_append, List.pairwise_append]
      refine ⟨h.logSorted, List.pairwise_singleton _ _, fun a ha b hb => ?_⟩
      obtain ⟨o', ho', rfl⟩ := List.mem_map.mp ha
      rw [List.map_singleton, List.mem_singleton] at hb
      exact hb ▸ hk ▸ (h.logOk o' ho').1
    logOk := List.forall_mem_append.2 ⟨h.logOk, List.forall_mem_singleton.2 ⟨Nat.le_of_eq hk, ho⟩⟩ }

theorem Inv.install {c0 : Option V} {s : VSys V} (h : Inv c0 s) (hpc : s.pc = .install) :
    Inv c0 { s with tv := s.tv.install, pc := .idle, upTo := s.assigned.length } :=
  have ⟨hq, hlt⟩ := h.flagT (h.pcI hpc)
  { le := Nat.le_refl _
    flagT := fun h' => by simp [TVal.install] at h'
    flagF := fun _ => rfl
    pcI := fun h' => by simp at h'
    cur := by rw [valAt_pos (Nat.zero_lt_of_lt hlt), ← List.getLast?_eq_getElem?]; exact hq
    logSorted := h.logSorted
    logOk := fun o ho => ⟨Nat.le_trans (h.logOk o ho).1 h.le, (h.logOk o ho).2⟩ }

theorem inv_step {c0 : Option V} {s : VSys V} (e : VEv V) (h : Inv c0 s) : Inv c0 (s.step e) := by
  cases e with
  | assign v =>
    have hle := h.le
    exact {
      le := by simp [VSys.step]; omega
      flagT := fun _ => by simp [VSys.step, TVal.assign]; omega
      flagF := by simp [VSys.step, TVal.assign]
      pcI := fun _ => by simp [VSys.step, TVal.assign]
      cur := by simp only [VSys.step, TVal.assign]; rw [valAt_append hle]; exact h.cur
      logSorted := h.logSorted
      logOk := fun o ho => ⟨(h.logOk o ho).1, (h.logOk o ho).2.append v⟩ }
  | updRead =>
    cases hpc : s.pc with
    | install => simpa [VSys.step, hpc] using h
    | idle =>
      cases hf : s.tv.newValue with
      | true =>
        rw [show s.step .updRead = { s with pc := .install } by simp [VSys.step, hpc, TVal.readFlag, hf]]
        exact { h with pcI := fun _ => hf }
      | false =>
        rw [show s.step .updRead = { s with log := s.log ++ [.upd false s.upTo s.upTo s.assigned.length] } by
          simp [VSys.step, hpc, TVal.readFlag, hf]]
        exact h.record rfl ⟨by simp, h.flagF hf, Nat.le_refl _, h.le⟩
  | updInstall =>
    cases hpc : s.pc with
    | idle => simpa [VSys.step, hpc] using h
    | install =>
      rw [show s.step .updInstall =
          { s with tv := s.tv.install, pc := .idle, upTo := s.assigned.length,
                   log := s.log ++ [.upd true s.upTo s.assigned.length s.assigned.length] } by
        simp [VSys.step, hpc]]
      exact (h.install hpc).record rfl ⟨by simp [(h.flagT (h.pcI hpc)).2], rfl, h.le, Nat.le_refl _⟩
  | get =>
    cases hpc : s.pc with
    | install => simpa [VSys.step, hpc] using h
    | idle =>
      rw [show s.step .get = { s with log := s.log ++ [.got s.upTo s.tv.get] } by simp [VSys.step, hpc]]
      exact h.record rfl ⟨h.le, h.cur⟩

theorem inv_runR (c0 : Option V) (hist : List (VEv V)) : Inv c0 (VSys.runR c0 hist) := by
  induction hist with
  | nil => exact inv_init c0
  | cons e earlier ih => exact inv_step e ih

theorem step_assigned_of_consumer (s : VSys V) (e : VEv V) (h : VEv.isAssign e = false) :
    (s.step e).assigned = s.assigned := by
  cases e with
  | assign v => cases h
  | updRead =>
    simp only [VSys.step]
    split
    · split <;> rfl
    · rfl
  | updInstall | get => simp only [VSys.step]; split <;> rfl

def Quiet (s : VSys V) : Prop := s.pc = .idle ∧ s.tv.newValue = false

theorem quiet_step {s : VSys V} {e : VEv V} (h : VEv.isAssign e = false) (hq : Quiet s) :
    (s.step e).tv = s.tv ∧ (s.step e).pc = s.pc := by
  obtain ⟨hpc, hf⟩ := hq
  cases e with
  | assign v => cases h
  | updRead | updInstall | get => simp [VSys.step, hpc, TVal.readFlag, hf]

theorem finishUpdate_quiet (s : VSys V) : Quiet (finishUpdate s) := by
  cases hpc : s.pc <;> cases hf : s.tv.newValue <;>
    simp [finishUpdate, VSys.step, hpc, hf, TVal.readFlag, TVal.install, Quiet]

theorem finishUpdate_assigned (s : VSys V) : (finishUpdate s).assigned = s.assigned := by
  rw [finishUpdate, step_assigned_of_consumer _ _ rfl, step_assigned_of_consumer _ _ rfl,
    step_assigned_of_consumer _ _ rfl]

theorem runFrom_quiet {s : VSys V} {more : List (VEv V)} (hmore : ∀ e ∈ more, VEv.isAssign e = false)
    (hq : Quiet s) : (runFrom s more).tv = s.tv ∧ (runFrom s more).pc = s.pc := by
  induction more with
  | nil => exact ⟨rfl, rfl⟩
  | cons e rest ih =>
    have ⟨t, p⟩ := ih fun e he => hmore e (List.mem_cons_of_mem _ he)
    have ⟨t', p'⟩ := quiet_step (hmore e List.mem_cons_self) (s := runFrom s rest) ⟨p ▸ hq.1, t ▸ hq.2⟩
    exact ⟨t'.trans t, p'.trans p⟩

theorem Inv.get_of_quiet {c0 : Option V} {s : VSys V} (h : Inv c0 s) (hq : Quiet s) :
    s.tv.get = s.assigned.getLast?.or c0 := by
  rw [TVal.get, h.cur, h.flagF hq.2, valAt_length]

end TVal
end RkVerif.C12
