/-
Helper lemmas for C03 (AsyncLoop): injectivity of the state code, the closed-set lemma
(`reach_sub`: a list containing `init` and closed under `step` contains every reachable state),
the fair-termination argument from a ranking (`Ranked`, `fair_term`), how the generated rank tables are
read (`pack`, `entry`) and reachability along an explicit path (`reach_of_path`).
-/
import RkVerif.Model.C03
namespace RkVerif.C03

theorem LPc.n_lt (a : LPc) : a.n < 17 := by cases a <;> decide
theorem CPc.n_lt (a : CPc) : a.n < 17 := by cases a <;> decide
theorem Owner.n_lt (a : Owner) : a.n < 3 := by cases a <;> decide
theorem bn_lt (b : Bool) : bn b < 2 := by cases b <;> decide

/- The numbers are the constructor indices, so `ofNat` (which `deriving DecidableEq` defines) inverts them. -/
theorem LPc.n_inj {a b : LPc} (h : a.n = b.n) : a = b :=
  Function.LeftInverse.injective (g := LPc.ofNat) (fun x => by cases x <;> rfl) h
theorem CPc.n_inj {a b : CPc} (h : a.n = b.n) : a = b :=
  Function.LeftInverse.injective (g := CPc.ofNat) (fun x => by cases x <;> rfl) h
theorem Owner.n_inj {a b : Owner} (h : a.n = b.n) : a = b :=
  Function.LeftInverse.injective (g := Owner.ofNat) (fun x => by cases x <;> rfl) h
theorem bn_inj {a b : Bool} (h : bn a = bn b) : a = b :=
  Function.LeftInverse.injective (g := (· == 1)) (fun x => by cases x <;> rfl) h

theorem radix_inj {k a b a' b' : Nat} (hb : b < k) (hb' : b' < k) (h : a * k + b = a' * k + b') :
    a = a' ∧ b = b' := by
  have hk : 0 < k := Nat.zero_lt_of_lt hb
  have hd := congrArg (· / k) h
  have hm := congrArg (· % k) h
  simp only [Nat.add_comm (_ * k), Nat.add_mul_div_right _ _ hk, Nat.add_mul_mod_self_right,
    Nat.div_eq_of_lt, Nat.mod_eq_of_lt, hb, hb', Nat.zero_add] at hd hm
  exact ⟨hd, hm⟩

theorem code_inj {s t : State} (h : code s = code t) : s = t := by
  obtain ⟨l1, c1, a1, r1, i1, m1, p1, q1⟩ := s
  obtain ⟨l2, c2, a2, r2, i2, m2, p2, q2⟩ := t
  simp only [code] at h
  obtain ⟨h, e8⟩ := radix_inj (bn_lt _) (bn_lt _) h
  obtain ⟨h, e7⟩ := radix_inj (bn_lt _) (bn_lt _) h
  obtain ⟨h, e6⟩ := radix_inj m1.n_lt m2.n_lt h
  obtain ⟨h, e5⟩ := radix_inj (bn_lt _) (bn_lt _) h
  obtain ⟨h, e4⟩ := radix_inj (bn_lt _) (bn_lt _) h
  obtain ⟨h, e3⟩ := radix_inj (bn_lt _) (bn_lt _) h
  obtain ⟨e1, e2⟩ := radix_inj c1.n_lt c2.n_lt h
  rw [LPc.n_inj e1, CPc.n_inj e2, bn_inj e3, bn_inj e4, bn_inj e5, Owner.n_inj e6, bn_inj e7, bn_inj e8]

theorem testBit_maskOf {r : List State} {n : Nat} (h : (maskOf r).testBit n = true) : ∃ s ∈ r, code s = n := by
  induction r with
  | nil => simp [maskOf] at h
  | cons x xs ih =>
    simp only [maskOf, Nat.testBit_or, Bool.or_eq_true] at h
    rcases h with h | h
    · refine ⟨x, List.mem_cons_self, ?_⟩
      rw [Nat.one_shiftLeft, Nat.testBit_two_pow] at h
      simpa using h
    · obtain ⟨s, hs, hc⟩ := ih h
      exact ⟨s, List.mem_cons_of_mem _ hs, hc⟩

theorem mem_of_mask {r : List State} {s : State} (h : (maskOf r).testBit (code s) = true) : s ∈ r := by
  obtain ⟨t, ht, hc⟩ := testBit_maskOf h
  rw [← code_inj hc]; exact ht

/-- With `m = maskOf r`: `r` is closed under `step`.  A successor is looked up by `Nat.testBit`, which the kernel
    computes with its built-in arithmetic on binary numbers; list membership is far slower to check here. -/
def closedM (c : Cfg) (r : List State) (m : Nat) : Bool :=
  r.all (fun s => (step c s).all (fun t => Nat.testBit m (code t)))

theorem reach_sub (c : Cfg) (r : List State) (h0 : init ∈ r) (hc : closedM c r (maskOf r) = true) :
    ∀ s, Reachable c s → s ∈ r := by
  intro s hs
  induction hs with
  | init => exact h0
  | step _ ht ih =>
    simp only [closedM, List.all_eq_true] at hc
    exact mem_of_mask (hc _ ih _ ht)

theorem inv_of_all (c : Cfg) (r : List State) (m : Nat) (hm : m = maskOf r)
    (h0 : Nat.testBit m (code init) = true) (hc : closedM c r m = true)
    (P : State → Bool) (hP : r.all P = true) : ∀ s, Reachable c s → P s = true := by
  subst hm
  exact fun s hs => List.all_eq_true.mp hP s (reach_sub c r (mem_of_mask h0) hc s hs)

theorem stepNS_sub_step {c : Cfg} {s : State} {p : Thread × State} (h : p ∈ stepNS c s) : p.2 ∈ step c s := by
  simp only [stepNS, List.mem_append, List.mem_map] at h
  simp only [step, List.mem_append]
  rcases h with ⟨t, ht, rfl⟩ | ⟨t, ht, rfl⟩
  · exact Or.inl (Or.inl ht)
  · exact Or.inr ht

theorem step_eq_nil_of_dead {c : Cfg} {s : State} (hc : s.cpc = .dead) (hl : s.lpc = .exited) : step c s = [] := by
  obtain ⟨l, p, a, r, i, m, x, y⟩ := s
  cases hc; cases hl; rfl

/-- What `fair_term` asks of a ranking at one state, `help s` being the thread whose step lowers `rank`.
    An `abbrev` of decidable parts, so that a certificate is checked by evaluating it. -/
abbrev Ranked (c : Cfg) (rank : State → Nat) (help : State → Thread) (region target : CPc → Bool)
    (s : State) : Prop :=
  region s.cpc = true → enabled c (help s) s = true ∧ ∀ p ∈ stepNS c s,
    (region p.2.cpc = true ∨ target p.2.cpc = true) ∧
    (rank p.2 < rank s ∨ p.1 ≠ help s ∧ rank p.2 = rank s ∧ help p.2 = help s)

/-- Fair termination: with such a ranking of the reachable states, no weakly fair execution (without
    spurious wake-ups) stays in `region` for ever. -/
theorem fair_term (c : Cfg) (rank : State → Nat) (help : State → Thread) (region target : CPc → Bool)
    (cert : ∀ s, Reachable c s → Ranked c rank help region target s)
    (σ : Nat → State) (τ : Nat → Thread)
    (h0 : Reachable c (σ 0)) (hd : region (σ 0).cpc = true)
    (hstep : ∀ i, target (σ i).cpc = true ∨ (τ i, σ (i + 1)) ∈ stepNS c (σ i))
    (hfair : ∀ i t, ∃ j, i ≤ j ∧ (τ j = t ∨ enabled c t (σ j) = false ∨ target (σ j).cpc = true)) :
    ∃ n, target (σ n).cpc = true := by
  apply Classical.byContradiction
  intro hn
  have hn : ∀ n, ¬ target (σ n).cpc = true := fun n h => hn ⟨n, h⟩
  have hstep : ∀ i, (τ i, σ (i + 1)) ∈ stepNS c (σ i) := fun i => (hstep i).resolve_left (hn i)
  have good : ∀ i, Reachable c (σ i) ∧ region (σ i).cpc = true := by
    intro i
    induction i with
    | zero => exact ⟨h0, hd⟩
    | succ i ih =>
      exact ⟨.step ih.1 (stepNS_sub_step (hstep i)),
        ((cert _ ih.1 ih.2).2 _ (hstep i)).1.resolve_right (hn _)⟩
  have dec : ∀ i, rank (σ (i + 1)) < rank (σ i) ∨
      τ i ≠ help (σ i) ∧ rank (σ (i + 1)) = rank (σ i) ∧ help (σ (i + 1)) = help (σ i) :=
    fun i => ((cert _ (good i).1 (good i).2).2 _ (hstep i)).2
  -- The rank drops, by induction on the distance `d` to the index at which fairness lets the helpful
  -- thread move: until then each step lowers the rank or keeps both it and the helpful thread.
  have drop : ∀ d i, τ (i + d) = help (σ i) ∨ enabled c (help (σ i)) (σ (i + d)) = false →
      ∃ m, rank (σ m) < rank (σ i) := by
    intro d
    induction d with
    | zero =>
      intro i hj
      rcases hj with hj | hj
      · exact ⟨i + 1, (dec i).resolve_right fun h => h.1 hj⟩
      · exact absurd (cert _ (good i).1 (good i).2).1 (ne_true_of_eq_false hj)
    | succ d ih =>
      intro i hj
      rcases dec i with h | ⟨_, hr, hh⟩
      · exact ⟨i + 1, h⟩
      · rw [← hr]; exact ih (i + 1) (by rwa [hh, Nat.add_right_comm])
  -- so it would fall for ever
  refine (measure fun i => rank (σ i)).wf.induction (C := fun _ => False) 0 fun i ih => ?_
  obtain ⟨j, hij, hj⟩ := hfair i (help (σ i))
  obtain ⟨d, rfl⟩ := Nat.exists_eq_add_of_le hij
  obtain ⟨m, hm⟩ := drop d i (hj.imp_right (·.resolve_right (hn _)))
  exact ih m hm

/-! ### Rank tables

A rank table of Gen/C03Reach.lean lists `(code s, 2 * rank + (1 if the helpful thread is the loop thread))`.
`pack` lays the table out in one number, the entry of code `k` in bits `16 k … 16 k + 15` (a rank is at most
the number of states, a few hundred), so that the kernel finds an entry with a shift and a remainder instead
of searching the list.  Nothing has to be proved about the look-up: `fair_term` holds for any `rank` and `help`,
and what the kernel evaluates is `Ranked` for the very functions `rankOf tab` and `helpOf tab`.  An entry read
wrongly could make that evaluation fail; it could not make it prove anything false. -/

def pack : List (Nat × Nat) → Nat
  | [] => 0
  | (k, v) :: r => (v <<< (16 * k)) ||| pack r

def entry (tab : List (Nat × Nat)) (s : State) : Nat := (pack tab >>> (16 * code s)) % 65536

def rankOf (tab : List (Nat × Nat)) (s : State) : Nat := entry tab s / 2
def helpOf (tab : List (Nat × Nat)) (s : State) : Thread := if entry tab s % 2 = 1 then .loop else .ctl

def pathOK (c : Cfg) : State → List State → Bool
  | _, [] => true
  | s, t :: rest => mem t (step c s) && pathOK c t rest

theorem reach_of_path {c : Cfg} {s : State} (hs : Reachable c s) {p : List State} (h : pathOK c s p = true) :
    ∀ t ∈ p, Reachable c t := by
  induction p generalizing s with
  | nil => intro t ht; cases ht
  | cons x xs ih =>
    simp only [pathOK, Bool.and_eq_true] at h
    have hx : Reachable c x := Reachable.step hs ((mem_iff _ _).mp h.1)
    exact List.forall_mem_cons.2 ⟨hx, ih hx h.2⟩

theorem reach_on_path (c : Cfg) (p : List State) {Q : State → Prop} (h : pathOK c init p = true)
    (hq : ∃ t ∈ p, Q t) : ∃ s, Reachable c s ∧ Q s :=
  let ⟨t, ht, hqt⟩ := hq
  ⟨t, reach_of_path .init h t ht, hqt⟩

/-! ### Explicit executions

Each list holds the states after `init`, one `step` apart.  `pathOK` checks a list where it is used, so nothing
rests on how it was found; no program in the tree prints these lists.  To rebuild one after a change of the
model, search `step` breadth-first from `init` for a state with the wanted property, keeping predecessors. -/

def witnessOrig : List State := [
  ⟨.alive1,.idle,true,false,false,.free,false,false⟩,
  ⟨.alive2,.idle,true,false,false,.free,false,false⟩,
  ⟨.alive2,.st0,true,false,false,.free,false,false⟩,
  ⟨.alive2,.st1,true,false,false,.free,false,false⟩,
  ⟨.alive2,.st2,true,false,false,.ctl,false,false⟩,
  ⟨.alive2,.st3,true,true,false,.ctl,false,false⟩,
  ⟨.run,.st3,true,true,false,.ctl,false,false⟩,
  ⟨.run,.st4,true,true,false,.free,false,false⟩,
  ⟨.run,.idle,true,true,false,.free,false,true⟩,
  ⟨.run,.sp0,true,true,false,.free,false,false⟩,
  ⟨.run,.sp1,true,true,false,.free,false,false⟩,
  ⟨.run,.sp2,true,false,false,.free,false,false⟩,
  ⟨.run,.idle,true,false,false,.free,true,false⟩,
  ⟨.pub,.idle,true,false,true,.free,true,false⟩,
  ⟨.body,.idle,true,false,true,.free,true,false⟩
]
/-- stop() is called while the loop thread sleeps in `wait` and returns at once: the path ends with `stopped`,
    the controller idle and `lpc = .waiting`.  No state on it has the body running. -/
def pathStoppedBodyDone : List State := [
  ⟨.alive1,.idle,true,false,false,.free,false,false⟩,
  ⟨.alive2,.idle,true,false,false,.free,false,false⟩,
  ⟨.pub,.idle,true,false,true,.free,false,false⟩,
  ⟨.norun,.idle,true,false,true,.free,false,false⟩,
  ⟨.prelock,.idle,true,false,false,.free,false,false⟩,
  ⟨.pred,.idle,true,false,false,.loop,false,false⟩,
  ⟨.pred2,.idle,true,false,false,.loop,false,false⟩,
  ⟨.pdF,.idle,true,false,false,.loop,false,false⟩,
  ⟨.waiting,.idle,true,false,false,.free,false,false⟩,
  ⟨.waiting,.sp0,true,false,false,.free,false,false⟩,
  ⟨.waiting,.idle,true,false,false,.free,true,false⟩
]
def pathStartedBody : List State := [
  ⟨.alive1,.idle,true,false,false,.free,false,false⟩,
  ⟨.alive2,.idle,true,false,false,.free,false,false⟩,
  ⟨.pub,.idle,true,false,true,.free,false,false⟩,
  ⟨.pub,.st0,true,false,true,.free,false,false⟩,
  ⟨.pub,.st1,true,false,true,.free,false,false⟩,
  ⟨.pub,.st2,true,false,true,.ctl,false,false⟩,
  ⟨.pub,.st3,true,true,true,.ctl,false,false⟩,
  ⟨.run,.st3,true,true,true,.ctl,false,false⟩,
  ⟨.body,.st3,true,true,true,.ctl,false,false⟩,
  ⟨.body,.st4,true,true,true,.free,false,false⟩,
  ⟨.body,.idle,true,true,true,.free,false,true⟩
]
def pathDeadThread : List State := [
  ⟨.top,.d0,true,false,false,.free,false,false⟩,
  ⟨.top,.d1,true,false,false,.ctl,false,false⟩,
  ⟨.top,.d2,false,false,false,.ctl,false,false⟩,
  ⟨.exited,.d2,false,false,false,.ctl,false,false⟩,
  ⟨.exited,.d3,false,false,false,.ctl,false,false⟩,
  ⟨.exited,.d4,false,false,false,.free,false,false⟩,
  ⟨.exited,.d5,false,false,false,.free,false,false⟩,
  ⟨.exited,.dead,false,false,false,.free,false,false⟩
]
def pathDeadTaskBody : List State := [
  ⟨.alive1,.idle,true,false,false,.free,false,false⟩,
  ⟨.alive2,.idle,true,false,false,.free,false,false⟩,
  ⟨.pub,.idle,true,false,true,.free,false,false⟩,
  ⟨.pub,.st0,true,false,true,.free,false,false⟩,
  ⟨.pub,.st1,true,false,true,.free,false,false⟩,
  ⟨.pub,.st2,true,false,true,.ctl,false,false⟩,
  ⟨.pub,.st3,true,true,true,.ctl,false,false⟩,
  ⟨.run,.st3,true,true,true,.ctl,false,false⟩,
  ⟨.body,.st3,true,true,true,.ctl,false,false⟩,
  ⟨.body,.st4,true,true,true,.free,false,false⟩,
  ⟨.body,.idle,true,true,true,.free,false,true⟩,
  ⟨.body,.d0,true,true,true,.free,false,false⟩,
  ⟨.body,.d1,true,true,true,.ctl,false,false⟩,
  ⟨.body,.d2,false,true,true,.ctl,false,false⟩,
  ⟨.body,.d3,false,false,true,.ctl,false,false⟩,
  ⟨.body,.d4,false,false,true,.free,false,false⟩,
  ⟨.body,.d5,false,false,true,.free,false,false⟩,
  ⟨.body,.dead,false,false,true,.free,false,false⟩
]
def pathRestart : List State := [
  ⟨.alive1,.idle,true,false,false,.free,false,false⟩,
  ⟨.alive2,.idle,true,false,false,.free,false,false⟩,
  ⟨.pub,.idle,true,false,true,.free,false,false⟩,
  ⟨.norun,.idle,true,false,true,.free,false,false⟩,
  ⟨.prelock,.idle,true,false,false,.free,false,false⟩,
  ⟨.pred,.idle,true,false,false,.loop,false,false⟩,
  ⟨.pred2,.idle,true,false,false,.loop,false,false⟩,
  ⟨.pdF,.idle,true,false,false,.loop,false,false⟩,
  ⟨.waiting,.idle,true,false,false,.free,false,false⟩,
  ⟨.waiting,.st0,true,false,false,.free,false,false⟩,
  ⟨.waiting,.st1,true,false,false,.free,false,false⟩,
  ⟨.waiting,.st2,true,false,false,.ctl,false,false⟩,
  ⟨.waiting,.st3,true,true,false,.ctl,false,false⟩,
  ⟨.waiting,.st4,true,true,false,.free,false,false⟩,
  ⟨.woken,.idle,true,true,false,.free,false,true⟩
]

end RkVerif.C03
