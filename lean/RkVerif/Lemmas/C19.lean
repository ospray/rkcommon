/-
Observers: the invariant `WF` of the concrete state (no fault so far, pointers and registration lists
agree, stamps below the counter) and the abstraction function `abs` to the `pending`-bit specification.
Both see the slots only through `tgt`, `regs` and `ln`, so each primitive of the model is characterised once
by what it does to these. Apart from `bassign`, which changes nothing, the operations are instances of four
kinds of state change (`retarget_rel`, `stampObl_rel`, `bdel_rel`, `renew_rel`); the two constructors that
draw a stamp before they register (`onew`, `ocopy`) are a draw (`jump s 1`) followed by a `retarget`.
`sim_step` puts them together.

Stamps: the invariants of the counter under any interleaving of micro-steps.
-/
import RkVerif.Model.C19

namespace RkVerif.C19

@[simp] theorem upd_same {α : Type} (f : Nat → α) (k : Nat) (v : α) : upd f k v k = v := by simp [upd]
theorem upd_other {α : Type} {f : Nat → α} {k : Nat} {v : α} {x : Nat} (h : x ≠ k) : upd f k v x = f x := by
  simp [upd, h]

theorem upd_eq_self {α : Type} {f : Nat → α} {k : Nat} {v : α} (h : f k = v) : upd f k v = f := by
  funext x; unfold upd; split <;> simp [*]

theorem comp_upd {α β : Type} (g : α → β) (f : Nat → α) (k : Nat) (v : α) :
    (fun x => g (upd f k v x)) = upd (fun x => g (f x)) k (g v) := by
  funext x; unfold upd; split <;> rfl

theorem forall_upd {α : Type} {P : α → Prop} {f : Nat → Option α} {k : Nat} {v : Option α}
    (hf : ∀ x a, f x = some a → P a) (hv : ∀ a, v = some a → P a) : ∀ x a, upd f k v x = some a → P a := by
  intro x a; unfold upd; split
  · exact hv a
  · exact hf x a

def tgt (obr : Nat → Option Obr) (o : Nat) : Option Nat := (obr o).bind (·.observee)

def regs (obl : Nat → Option Obl) (b : Nat) : List Nat := ((obl b).map (·.observers)).getD []

def ln (obl : Nat → Option Obl) (b : Nat) : Option Nat := (obl b).map (·.lastNotified)

theorem tgt_upd (obr : Nat → Option Obr) (o : Nat) (v : Option Obr) :
    tgt (upd obr o v) = upd (tgt obr) o (v.bind (·.observee)) := comp_upd (·.bind (·.observee)) obr o v

theorem regs_upd (obl : Nat → Option Obl) (b : Nat) (v : Option Obl) :
    regs (upd obl b v) = upd (regs obl) b ((v.map (·.observers)).getD []) :=
  comp_upd (fun x => (x.map (·.observers)).getD []) obl b v

theorem ln_upd (obl : Nat → Option Obl) (b : Nat) (v : Option Obl) :
    ln (upd obl b v) = upd (ln obl) b (v.map (·.lastNotified)) := comp_upd (·.map (·.lastNotified)) obl b v

theorem tgt_eq_some {obr : Nat → Option Obr} {o b : Nat} :
    tgt obr o = some b ↔ ∃ c, obr o = some c ∧ c.observee = some b := by
  cases h : obr o <;> simp [tgt, h]

theorem mem_regs {obl : Nat → Option Obl} {b o : Nat} : o ∈ regs obl b ↔ ∃ B, obl b = some B ∧ o ∈ B.observers := by
  cases h : obl b <;> simp [regs, h]

def editRegs (s : St) (t : Option Nat) (f : List Nat → List Nat) : St :=
  match t with
  | none => s
  | some b =>
    match s.obl b with
    | none => { s with fault := true }
    | some B => { s with obl := upd s.obl b (some { B with observers := f B.observers }) }

theorem registerOpt_eq (s : St) (t : Option Nat) (o : Nat) : registerOpt s t o = editRegs s t (· ++ [o]) := by
  cases t <;> rfl

theorem unregisterOpt_eq (s : St) (t : Option Nat) (o : Nat) :
    unregisterOpt s t o = editRegs s t (·.filter (· ≠ o)) := by
  cases t <;> rfl

section editRegs
variable (s : St) (t : Option Nat) (f : List Nat → List Nat)

@[simp] theorem editRegs_counter : (editRegs s t f).counter = s.counter := by
  cases t with
  | none => rfl
  | some b => simp only [editRegs]; split <;> rfl

@[simp] theorem ln_editRegs : ln (editRegs s t f).obl = ln s.obl := by
  cases t with
  | none => rfl
  | some b =>
    simp only [editRegs]; split
    · rfl
    · next B hB => exact (ln_upd ..).trans (upd_eq_self (by simp [ln, hB]))

/-- the model writes the observer's slot between the two list edits; they do not look at it -/
theorem editRegs_with_obr (r : Nat → Option Obr) :
    editRegs { s with obr := r } t f = { editRegs s t f with obr := r } := by
  cases t with
  | none => rfl
  | some b => simp only [editRegs]; split <;> rfl

@[simp] theorem editRegs_obr : (editRegs s t f).obr = s.obr :=
  (congrArg St.obr (editRegs_with_obr s t f s.obr) :)

variable {s t f} (live : ∀ b, t = some b → (ln s.obl b).isSome)
include live

theorem editRegs_fault : (editRegs s t f).fault = s.fault := by
  cases t with
  | none => rfl
  | some b =>
    simp only [editRegs]; split
    · next hb => simp [ln, hb] at live
    · rfl

theorem regs_editRegs (b : Nat) :
    regs (editRegs s t f).obl b = if t = some b then f (regs s.obl b) else regs s.obl b := by
  cases t with
  | none => rfl
  | some b' =>
    simp only [editRegs]; split
    · next hb => simp [ln, hb] at live
    · next B hB =>
      simp only [regs_upd, upd, Option.some.injEq]
      by_cases e : b = b'
      · subst e; simp [regs, hB]
      · simp [e, Ne.symm e]

theorem mem_regs_add (o o' b : Nat) :
    o' ∈ regs (editRegs s t (· ++ [o])).obl b ↔ o' ∈ regs s.obl b ∨ (t = some b ∧ o' = o) := by
  rw [regs_editRegs live]; split <;> simp [*]

theorem mem_regs_remove (o o' b : Nat) :
    o' ∈ regs (editRegs s t (·.filter (· ≠ o))).obl b ↔ o' ∈ regs s.obl b ∧ ¬(t = some b ∧ o' = o) := by
  rw [regs_editRegs live]; split <;> simp [*]

end editRegs

/-- a stamp `n` an observer may hold, given the counter `k` and the observables' stamps `l` -/
def OkLo (k : Nat) (l : Nat → Option Nat) (n : Nat) : Prop := n < k ∧ ∀ b, l b ≠ some n

theorem OkLo.mono {k k' l n} (h : OkLo k l n) (hk : k ≤ k') : OkLo k' l n := ⟨Nat.lt_of_lt_of_le h.1 hk, h.2⟩

theorem OkLo.upd {k l n b} (h : OkLo k l n) {v : Option Nat} (hv : v ≠ some n) : OkLo k (upd l b v) n := by
  refine ⟨h.1, fun b' => ?_⟩; unfold C19.upd; split
  · exact hv
  · exact h.2 b'

theorem OkLo.fresh {k l} (hl : ∀ b m, l b = some m → m < k) : OkLo (k + 1) l k :=
  ⟨Nat.lt_succ_self k, fun b hb => Nat.lt_irrefl k (hl b k hb)⟩

/-- the invariant of the concrete state alone; `no_dangling`, `no_dangling_pointers` and
    `stamp_roles_disjoint` are its fields read off a reachable state. -/
structure WF (s : St) : Prop where
  nofault : s.fault = false
  linked : ∀ o b, tgt s.obr o = some b ↔ o ∈ regs s.obl b
  lo_ok : ∀ o c, s.obr o = some c → OkLo s.counter (ln s.obl) c.lastObserved
  ln_lt : ∀ b n, ln s.obl b = some n → n < s.counter

theorem WF.live_target {s} (h : WF s) {o c b} (ho : s.obr o = some c) (hb : c.observee = some b) :
    (ln s.obl b).isSome := by
  have ⟨B, hB, _⟩ := mem_regs.mp ((h.linked o b).mp (tgt_eq_some.mpr ⟨c, ho, hb⟩))
  simp [ln, hB]

theorem WF.reg {s} (h : WF s) {b B} (hb : s.obl b = some B) (o : Nat) : o ∈ B.observers ↔ tgt s.obr o = some b := by
  rw [h.linked, mem_regs]; simp [hb]

theorem WF.jump {s} (h : WF s) (n : Nat) : WF (jump s n) :=
  ⟨h.nofault, h.linked, fun o c hc => (h.lo_ok o c hc).mono (Nat.le_add_right ..),
    fun b m hb => Nat.lt_add_right n (h.ln_lt b m hb)⟩

def pending (l : Nat → Option Nat) (c : Obr) : Bool := (c.observee.bind l).any (c.lastObserved < ·)

def absObr (l : Nat → Option Nat) (c : Obr) : AObr := ⟨pending l c, c.observee⟩

def abs (s : St) : ASt where
  alive b := (ln s.obl b).isSome
  obs o := (s.obr o).map (absObr (ln s.obl))

@[simp] theorem abs_alive (s : St) (b : Nat) : (abs s).alive b = (s.obl b).isSome := by simp [abs, ln]
@[simp] theorem abs_obs (s : St) (o : Nat) : (abs s).obs o = (s.obr o).map (absObr (ln s.obl)) := rfl

theorem pending_upd (l : Nat → Option Nat) (b : Nat) (v : Option Nat) (c : Obr) :
    pending (upd l b v) c = if c.observee = some b then v.any (c.lastObserved < ·) else pending l c := by
  unfold pending
  cases c.observee with
  | none => rfl
  | some b' => by_cases e : b' = b <;> simp [upd, e]

theorem pending_fresh {l : Nat → Option Nat} {n : Nat} (h : ∀ b m, l b = some m → m < n) (t : Option Nat) :
    pending l ⟨n, t⟩ = false := by
  rw [pending, Option.any_eq_false]
  intro m hm
  have ⟨b, _, hb⟩ := Option.bind_eq_some_iff.mp hm
  simpa using Nat.le_of_lt (h b m hb)

theorem abs_upd_obl (s : St) (k : Nat) (obr : Nat → Option Obr) (f : Bool) (b : Nat) (v : Option Obl) :
    abs ⟨k, upd s.obl b v, obr, f⟩ = ⟨upd (abs s).alive b v.isSome,
      fun o => (obr o).map (absObr (upd (ln s.obl) b (v.map (·.lastNotified))))⟩ := by
  unfold abs; rw [ln_upd, comp_upd Option.isSome]; cases v <;> rfl

theorem mapTarget_abs (s : St) (b : Nat) (f : AObr → AObr) (o : Nat) :
    mapTarget (abs s).obs b f o =
      (s.obr o).map fun c => if c.observee = some b then f (absObr (ln s.obl) c) else absObr (ln s.obl) c := by
  simp only [mapTarget, abs_obs]
  cases s.obr o with
  | none => rfl
  | some c => simp only [Option.map_some, absObr]; split <;> rfl

abbrev Rel (s : St) (a : ASt) : Prop := WF s ∧ a = abs s

def retarget (s : St) (o : Nat) (old : Option Nat) (new : Option Obr) : St :=
  let s1 := unregisterOpt s old o
  registerOpt { s1 with obr := upd s1.obr o new } (new.bind (·.observee)) o

theorem retarget_eq (s : St) (o : Nat) (old : Option Nat) (new : Option Obr) :
    retarget s o old new =
      { editRegs (editRegs s old (·.filter (· ≠ o))) (new.bind (·.observee)) (· ++ [o]) with
        obr := upd s.obr o new } := by
  simp only [retarget, registerOpt_eq, unregisterOpt_eq, editRegs_with_obr, editRegs_obr]

theorem retarget_rel {s} (h : WF s) (o : Nat) {old : Option Nat} (hold : tgt s.obr o = old) (new : Option Obr)
    (ok : ∀ n, new = some n → OkLo s.counter (ln s.obl) n.lastObserved)
    (live : ∀ b, new.bind (·.observee) = some b → (ln s.obl b).isSome) :
    Rel (retarget s o old new) { abs s with obs := upd (abs s).obs o (new.map (absObr (ln s.obl))) } := by
  have live0 : ∀ b, old = some b → (ln s.obl b).isSome := fun b hb =>
    have ⟨c, hc, hcb⟩ := tgt_eq_some.mp (hold.trans hb); h.live_target hc hcb
  have live1 : ∀ b, new.bind (·.observee) = some b →
      (ln (editRegs s old (·.filter (· ≠ o))).obl b).isSome := by simpa using live
  rw [retarget_eq]
  refine ⟨⟨?_, fun o' b' => ?_, ?_, ?_⟩, ?_⟩
  · exact (editRegs_fault live1).trans ((editRegs_fault live0).trans h.nofault)
  · rw [mem_regs_add live1, mem_regs_remove live0, ← h.linked, tgt_upd, ← hold]
    unfold upd; split
    · next e => subst e; simp
    · next e => simp [e]
  · simpa using forall_upd h.lo_ok ok
  · simpa using h.ln_lt
  · simp only [abs, ln_editRegs]
    exact congrArg _ (comp_upd _ s.obr o new).symm

theorem retarget_copy_rel {s} (h : WF s) (o : Nat) {old : Option Nat} (hold : tgt s.obr o = old) {src : Nat} {x : Obr}
    (hs : s.obr src = some x) :
    Rel (retarget s o old (some x)) { abs s with obs := upd (abs s).obs o (some (absObr (ln s.obl) x)) } :=
  retarget_rel h o hold (some x) (fun _ e => Option.some.inj e ▸ h.lo_ok src x hs) fun _ => h.live_target hs

/-- observable `b` (live, or dead with no registrations) draws a stamp: all its observers become pending -/
theorem stampObl_rel {s} (h : WF s) (b : Nat) {l : List Nat} (hl : regs s.obl b = l) :
    Rel { s with counter := s.counter + 1, obl := upd s.obl b (some ⟨s.counter, l⟩) }
      ⟨upd (abs s).alive b true, mapTarget (abs s).obs b fun x => { x with pending := true }⟩ := by
  refine ⟨⟨h.nofault, fun o b' => ?_, fun o c hc => ?_, ?_⟩, ?_⟩
  · simp only [regs_upd, Option.map_some, Option.getD_some, upd_eq_self hl]; exact h.linked o b'
  · have ok := h.lo_ok o c hc
    rw [ln_upd]; exact (ok.mono (Nat.le_succ _)).upd fun e => Nat.lt_irrefl _ (Option.some.inj e ▸ ok.1)
  · rw [ln_upd]
    exact forall_upd (fun b n hn => Nat.lt_succ_of_lt (h.ln_lt b n hn)) (by rintro _ ⟨⟩; exact Nat.lt_succ_self _)
  · rw [abs_upd_obl]
    refine congrArg _ (funext fun o => ?_)
    rw [mapTarget_abs]
    refine Option.map_congr fun c hc => ?_
    simp only [absObr, pending_upd, Option.map_some, Option.any_some, decide_eq_true (h.lo_ok o c hc).1]
    split <;> rfl

theorem mapTarget_dead {s} (h : WF s) {b : Nat} (hb : s.obl b = none) {f : AObr → AObr} :
    mapTarget (abs s).obs b f = (abs s).obs := by
  funext o; rw [mapTarget_abs]
  exact Option.map_congr fun c hc => if_neg fun e => by simpa [ln, hb] using h.live_target hc e

@[simp] theorem orphanAll_frame (s : St) (l : List Nat) :
    (orphanAll s l).obl = s.obl ∧ (orphanAll s l).counter = s.counter := by
  induction l generalizing s with
  | nil => exact ⟨rfl, rfl⟩
  | cons o rest ih => simp only [orphanAll]; split <;> simp [ih]

theorem orphanAll_eq (s : St) (l : List Nat) (h : ∀ o ∈ l, (s.obr o).isSome) :
    orphanAll s l =
      { s with obr := fun o => if o ∈ l then (s.obr o).map ({ · with observee := none }) else s.obr o } := by
  induction l generalizing s with
  | nil => simp [orphanAll]
  | cons p rest ih =>
    obtain ⟨c, hc⟩ := Option.isSome_iff_exists.mp (h p (by simp))
    simp only [orphanAll, hc]
    rw [ih]
    · congr 1; funext o
      by_cases e : o = p <;> by_cases m : o ∈ rest <;> simp [upd, *]
    · intro o ho
      show (if o = p then _ else s.obr o).isSome
      split
      · rfl
      · exact h o (by simp [ho])

def orphan (b : Nat) (c : Obr) : Obr := { c with observee := if c.observee = some b then none else c.observee }

/-- in a well-formed state the registration list of `b` holds exactly the observers of `b`, all live: the loop
    orphans them and nobody else -/
theorem orphanAll_registered {s} (h : WF s) {b : Nat} {B : Obl} (hb : s.obl b = some B) :
    orphanAll s B.observers = { s with obr := fun o => (s.obr o).map (orphan b) } := by
  rw [orphanAll_eq s _ fun o ho => by have ⟨c, hc, _⟩ := tgt_eq_some.mp ((h.reg hb o).mp ho); simp [hc]]
  congr 1; funext o
  simp only [h.reg hb]
  cases hc : s.obr o with
  | none => simp
  | some c => simp only [tgt, hc, Option.bind_some, Option.map_some, orphan]; split <;> rfl

theorem bdel_rel {s} (h : WF s) {b : Nat} {B : Obl} (hb : s.obl b = some B) :
    Rel ⟨s.counter, upd s.obl b none, (orphanAll s B.observers).obr, (orphanAll s B.observers).fault⟩
      ⟨upd (abs s).alive b false, mapTarget (abs s).obs b fun _ => ⟨false, none⟩⟩ := by
  rw [orphanAll_registered h hb]
  refine ⟨⟨h.nofault, fun o b' => ?_, fun o c' => ?_, ?_⟩, ?_⟩
  · have : tgt (fun o => (s.obr o).map (orphan b)) o = some b' ↔ tgt s.obr o = some b' ∧ b' ≠ b := by
      simp only [tgt]; cases s.obr o <;> grind [orphan]
    rw [this, h.linked, regs_upd]
    unfold upd; split <;> simp [*]
  · simp only [Option.map_eq_some_iff, ln_upd]
    rintro ⟨c, hc, rfl⟩
    exact (h.lo_ok o c hc).upd nofun
  · rw [ln_upd]; exact forall_upd h.ln_lt nofun
  · rw [abs_upd_obl]
    refine congrArg _ (funext fun o => ?_)
    rw [mapTarget_abs, Option.map_map]
    refine Option.map_congr fun c hc => ?_
    simp only [Function.comp, orphan]
    split
    · rfl
    · next e => simp only [absObr, pending_upd, e, if_false]

theorem wasNotified_eq {s} (h : WF s) {o : Nat} {c : Obr} (ho : s.obr o = some c) :
    wasNotified s o c =
      if pending (ln s.obl) c then
        ({ s with counter := s.counter + 1, obr := upd s.obr o (some { c with lastObserved := s.counter }) }, true)
      else (s, false) := by
  unfold wasNotified pending
  cases hb : c.observee with
  | none => rfl
  | some b =>
    have := h.live_target ho hb
    cases hB : s.obl b with
    | none => simp [ln, hB] at this
    | some B => simp [ln, hB]

theorem renew_rel {s} (h : WF s) {o : Nat} {c : Obr} (ho : s.obr o = some c) :
    Rel { s with counter := s.counter + 1, obr := upd s.obr o (some { c with lastObserved := s.counter }) }
      { abs s with obs := upd (abs s).obs o (some ⟨false, c.observee⟩) } := by
  refine ⟨⟨h.nofault, fun o' b => ?_, ?_, fun b n hn => Nat.lt_succ_of_lt (h.ln_lt b n hn)⟩, ?_⟩
  · rw [tgt_upd, upd_eq_self (by simp [tgt, ho])]; exact h.linked o' b
  · exact forall_upd (fun o c hc => (h.lo_ok o c hc).mono (Nat.le_succ _)) (by rintro _ ⟨⟩; exact OkLo.fresh h.ln_lt)
  · simp only [abs, comp_upd, Option.map_some, absObr, pending_fresh h.ln_lt]

theorem spec_of_observer {s a} (r : Rel s a) {o b : Nat} {c : Obr} (ho : s.obr o = some c) (hb : c.observee = some b) :
    ∃ p, a.obs o = some ⟨p, some b⟩ :=
  ⟨_, by rw [r.2, abs_obs, ho, Option.map_some, absObr, hb]⟩

theorem Rel.target_alive {s a} (r : Rel s a) {o b : Nat} {x : AObr} (ho : a.obs o = some x) (hb : x.target = some b) :
    a.alive b = true := by
  obtain ⟨h, rfl⟩ := r
  obtain ⟨c, hc, rfl⟩ := Option.map_eq_some_iff.mp ho
  simpa [ln] using h.live_target hc hb

theorem sim_step {s a} (r : Rel s a) (op : Op) :
    Rel (stepC s op).1 (stepA a op).1 ∧ (stepC s op).2 = (stepA a op).2 := by
  obtain ⟨h, rfl⟩ := r
  -- Each case evaluates both step functions on the slots the operation looks at. Where it does not apply both
  -- skip and `simp` closes the goal with `h`; what is left is the one branch where it applies, as
  -- `WF s' ∧ a' = abs s'` (`Rel s' a'` unfolded) for the two new states, an instance of one of the four kinds.
  cases op with
  | bnew b =>
    cases hb : s.obl b <;> simp [Rel, stepC, stepA, *]
    -- left: slot `b` empty; a new observable is a notification of one nobody observes yet
    exact mapTarget_dead h hb ▸ stampObl_rel h b (by simp [regs, hb])
  | bcopy b src =>
    cases hb : s.obl b <;> cases hs : s.obl src <;> simp [Rel, stepC, stepA, *]
    exact mapTarget_dead h hb ▸ stampObl_rel h b (by simp [regs, hb])
  | bassign b src => cases hb : s.obl b <;> cases hs : s.obl src <;> simp [Rel, stepC, stepA, *]
  | bdel b =>
    cases hb : s.obl b <;> simp [Rel, stepC, stepA, *]
    exact bdel_rel h hb
  | notify b =>
    rcases hb : s.obl b with _ | B <;> simp [Rel, stepC, stepA, *]
    -- the specification leaves `alive` as it is
    have := stampObl_rel h b (l := B.observers) (by simp [regs, hb])
    rwa [upd_eq_self (f := (abs s).alive) (by simp [hb])] at this
  | onew o b =>
    cases ho : s.obr o <;> cases hb : s.obl b <;> simp [Rel, stepC, stepA, *]
    -- left: slot `o` empty, `b` live. The constructor draws its stamp before it registers: `jump s 1` (in the
    -- model the draws of unrelated code) is the state after that draw, `s.counter` the stamp drawn, and the
    -- rest is a `retarget` of the empty slot there; the fresh stamp is not pending
    have := retarget_rel (h.jump 1) o (old := none) (by simp [tgt, jump, ho]) (some ⟨s.counter, some b⟩)
      (by rintro _ ⟨⟩; exact OkLo.fresh h.ln_lt) (by rintro _ ⟨⟩; simp [ln, jump, hb])
    rwa [Option.map_some, absObr, jump, pending_fresh h.ln_lt] at this
  | ocopy o src =>
    cases ho : s.obr o <;> cases hs : s.obr src <;> simp [Rel, stepC, stepA, *]
    -- left: `o` empty, `src` live; a draw (the `TimeStamp` copy constructor burns one value), then a `retarget`
    exact retarget_copy_rel (h.jump 1) o (old := none) (by simp [tgt, jump, ho]) hs
  | oassign o src =>
    cases ho : s.obr o <;> cases hs : s.obr src <;> simp [Rel, stepC, stepA, *]
    exact retarget_copy_rel h o (by simp [tgt, ho]) hs
  | odel o =>
    cases ho : s.obr o <;> simp [Rel, stepC, stepA, *]
    exact retarget_rel h o (by simp [tgt, ho]) none nofun nofun
  | poll o =>
    cases ho : s.obr o <;> simp [Rel, stepC, stepA, *]
    -- left: `o` live, and the answer is to be its `pending` bit; not pending: the specification writes the
    -- record back unchanged
    rw [wasNotified_eq h ho]
    cases hp : pending (ln s.obl) _ <;> simp [absObr, *]
    · exact congrArg (ASt.mk _) (upd_eq_self (by simp [ho, absObr, hp]))
    · exact renew_rel h ho

@[simp] theorem runC_cons (op : Op) (earlier : List Op) :
    runC (op :: earlier) = ((stepC (runC earlier).1 op).1, (stepC (runC earlier).1 op).2 :: (runC earlier).2) := rfl

@[simp] theorem runA_cons (op : Op) (earlier : List Op) :
    runA (op :: earlier) = ((stepA (runA earlier).1 op).1, (stepA (runA earlier).1 op).2 :: (runA earlier).2) := rfl

theorem Rel.init : Rel {} {} := ⟨⟨rfl, by simp [tgt, regs], nofun, nofun⟩, rfl⟩

theorem run_rel (hist : List Op) : Rel (runC hist).1 (runA hist).1 ∧ (runC hist).2 = (runA hist).2 := by
  induction hist with
  | nil => exact ⟨Rel.init, rfl⟩
  | cons op earlier ih =>
    have := sim_step ih.1 op
    exact ⟨this.1, by rw [runC_cons, runA_cons, this.2, ih.2]⟩

theorem runC_wf (hist : List Op) : WF (runC hist).1 := (run_rel hist).1.1

theorem issuedTo_sublist (s : SSt) (t : Nat) : (issuedTo s t).Sublist (issued s) := List.filter_sublist.map _

theorem srun_induction {P : SSt → Prop} (step : ∀ s st, P s → P (sstep s st)) {s0 : SSt} (h : P s0) :
    ∀ sched, P (srun s0 sched)
  | [] => h
  | st :: earlier => step _ st (srun_induction step h earlier)

structure SInv (s : SSt) : Prop where
  below : ∀ e ∈ s.log, e.2 < s.counter
  sorted : s.log.Pairwise (fun e1 e2 => e2.2 < e1.2)

theorem SInv.step (s : SSt) (st : SStep) (h : SInv s) : SInv (sstep s st) := by
  cases st with
  | fetchInc t =>
    exact ⟨List.forall_mem_cons.mpr ⟨Nat.lt_succ_self _, fun e he => Nat.lt_succ_of_lt (h.below e he)⟩,
      List.pairwise_cons.mpr ⟨h.below, h.sorted⟩⟩
  | _ => exact ⟨h.below, h.sorted⟩

structure SBelow (s : SSt) : Prop where
  reg : ∀ t, s.reg t < s.counter
  stamp : ∀ k, s.stamp k < s.counter

theorem upd_lt {f : Nat → Nat} {k v c : Nat} (hf : ∀ x, f x < c) (hv : v < c) (x : Nat) : upd f k v x < c := by
  unfold upd; split
  · exact hv
  · exact hf x

theorem SBelow.step (s : SSt) (st : SStep) (h : SBelow s) : SBelow (sstep s st) := by
  cases st with
  | fetchInc t =>
    exact ⟨upd_lt (fun t' => Nat.lt_succ_of_lt (h.reg t')) (Nat.lt_succ_self _),
      fun k => Nat.lt_succ_of_lt (h.stamp k)⟩
  | store t k => exact ⟨h.reg, upd_lt h.stamp (h.reg t)⟩
  | load t k => exact ⟨upd_lt h.reg (h.stamp k), h.stamp⟩

theorem srun_reg_frame {s0 : SSt} {t : Nat} {mid : List SStep} (h : ∀ st ∈ mid, st.thread ≠ t) :
    (srun s0 mid).reg t = s0.reg t := by
  induction mid with
  | nil => rfl
  | cons st earlier ih =>
    have h1 := h st (by simp)
    rw [← ih fun st' hst' => h st' (by simp [hst'])]
    cases st with
    | store t' k => rfl
    | _ => exact upd_other (Ne.symm h1)

theorem srun_stamp_frame (s0 : SSt) (k : Nat) (mid : List SStep) (h : ∀ t, SStep.store t k ∉ mid) :
    (srun s0 mid).stamp k = s0.stamp k := by
  induction mid with
  | nil => rfl
  | cons st earlier ih =>
    rw [← ih fun t ht => h t (by simp [ht])]
    cases st with
    | store t' k' => exact upd_other fun e => h t' (by simp [e])
    | _ => rfl

theorem srun_append (s : SSt) (l l' : List SStep) : srun s (l ++ l') = srun (srun s l') l := by
  induction l with
  | nil => rfl
  | cons x xs ih => simp only [List.cons_append, srun, ih]

theorem load_store_value (s : SSt) (t dst src : Nat) (mid : List SStep) (hmid : ∀ st ∈ mid, st.thread ≠ t) :
    (srun s (.store t dst :: (mid ++ [.load t src]))).stamp dst = s.stamp src := by
  simp only [srun, srun_append, sstep, upd_same]
  rw [srun_reg_frame hmid]
  exact upd_same ..

theorem sexec_eq_srun (s0 : SSt) (steps : List SStep) : sexec s0 steps = srun s0 steps.reverse := by
  induction steps generalizing s0 with
  | nil => rfl
  | cons st rest ih => rw [List.reverse_cons, srun_append]; exact ih (sstep s0 st)

end RkVerif.C19
