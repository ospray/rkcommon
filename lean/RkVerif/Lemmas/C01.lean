/-
C01 §2 (Sched): the inductive invariant of the enkiTS task-set path.

First the model's list and function-update primitives (`pick`, `sumBy`, `upd`; §3 uses `upd` too).  The state holds
lists used as multisets: `pick` yields a permutation, and everything the invariant speaks of (sums, `∀ x ∈ l`,
lengths) is invariant under permutation.  Then the task-set path: `Step` is `step` as a relation; every rule takes
one element out of a container and puts at most two back, and the coverage count `Part.cnt` is additive when a range
is cut in two (`Part.cnt_split`): these two facts carry each case of `Step.cover_eq`.  That law, its counterpart
for `m_RunningCount` (`Step.count_eq`) and `Step.wf` together are `inv_step`.
-/
import RkVerif.Model.C01
namespace RkVerif.C01

theorem sumBy_eq_sum {α : Type} (f : α → Nat) (l : List α) : sumBy f l = (l.map f).sum := by
  induction l with
  | nil => rfl
  | cons a l ih => simp only [sumBy, ih, List.map_cons, List.sum_cons]

theorem pick_perm {α : Type} : ∀ {l : List α} {k : Nat} {a : α} {r : List α},
    pick l k = some (a, r) → l.Perm (a :: r)
  | [], _, _, _, h => nomatch h
  | x :: l, 0, _, _, h => by cases h; exact .refl _
  | x :: l, k + 1, a, r, h => by
    simp only [pick] at h
    split at h <;> cases h
    next hp => exact ((pick_perm hp).cons x).trans (.swap ..)

theorem pick_sum {α : Type} {f : α → Nat} {l : List α} {k : Nat} {a : α} {r : List α}
    (h : pick l k = some (a, r)) : sumBy f l = f a + sumBy f r := by
  simp only [sumBy_eq_sum]
  exact ((pick_perm h).map f).sum_nat.trans List.sum_cons

theorem pick_forall {α : Type} {P : α → Prop} {l : List α} {k : Nat} {a : α} {r : List α}
    (h : pick l k = some (a, r)) : (∀ x ∈ l, P x) ↔ P a ∧ ∀ x ∈ r, P x := by
  simp only [(pick_perm h).mem_iff, List.forall_mem_cons]

theorem pick_length {α : Type} {l : List α} {k : Nat} {a : α} {r : List α}
    (h : pick l k = some (a, r)) : l.length = r.length + 1 :=
  (pick_perm h).length_eq

theorem pick_some_of_lt {α : Type} : ∀ (l : List α) (k : Nat), k < l.length → ∃ a r, pick l k = some (a, r)
  | [], _, h => by simp at h
  | x :: l, 0, _ => ⟨x, l, rfl⟩
  | x :: l, k + 1, h => by
    obtain ⟨a, r, hp⟩ := pick_some_of_lt l k (by simpa using h)
    exact ⟨a, x :: r, by simp [pick, hp]⟩

theorem sumBy_eq_zero_iff {α : Type} (f : α → Nat) (l : List α) : sumBy f l = 0 ↔ ∀ x ∈ l, f x = 0 := by
  simp [sumBy_eq_sum, List.sum_eq_zero_iff_forall_eq_nat]

theorem sumBy_indicator_count (x : Nat × Nat) (l : List (Nat × Nat)) :
    sumBy (fun e => if e = x then 1 else 0) l = l.count x := by
  induction l with
  | nil => rfl
  | cons a l ih =>
    simp only [sumBy, ih, List.count_cons, beq_iff_eq]
    omega

theorem upd_same {β : Type} (f : Nat → β) (t : Nat) (v : β) : upd f t v t = v := if_pos rfl

theorem upd_ne {β : Type} (f : Nat → β) {t x : Nat} (v : β) (h : x ≠ t) : upd f t v x = f x := if_neg h

theorem upd_cases {β : Type} (f : Nat → β) (t : Nat) (v : β) (x : Nat) :
    x = t ∧ upd f t v x = v ∨ x ≠ t ∧ upd f t v x = f x := by
  by_cases e : x = t
  · exact .inl ⟨e, e ▸ upd_same f t v⟩
  · exact .inr ⟨e, upd_ne f v e⟩

theorem upd_eq_of_ne {β : Type} {f : Nat → β} {t x : Nat} {v w : β} (h : upd f t v x = w) (hv : v ≠ w) :
    x ≠ t ∧ f x = w := by
  obtain ⟨-, e⟩ | ⟨ne, e⟩ := upd_cases f t v x
  · exact absurd (e ▸ h) hv
  · exact ⟨ne, e ▸ h⟩

theorem splitTask_eq (t s e r : Nat) :
    splitTask t s e r = (⟨t, s, s + min r (e - s)⟩, s + min r (e - s)) := by
  have : (if r > e - s then e - s else r) = min r (e - s) := by split <;> omega
  simp only [splitTask, this]

/-- `SplitTask` takes `min r (e - s)` off the front of `[s, e)` (`splitTask_eq`): the rest is a range again, and the
    two lengths add up. -/
theorem cut_le (r : Nat) {s e : Nat} (h : s ≤ e) : s + min r (e - s) ≤ e := by omega

theorem cut_len (r : Nat) {s e : Nat} (h : s ≤ e) : e - (s + min r (e - s)) + min r (e - s) = e - s := by omega

/-- on a pending piece that ends where the rest of the range begins (`h2`, kept in `Job.Wf` below), the pipe-full
    adjustment is `SplitTask` with `m_RangeToRun` again -/
theorem inlineAdjust_eq {r : Nat} {j : Job} {p : Part} (h1 : p.s ≤ p.e) (h2 : p.e = j.s) :
    inlineAdjust false r j p = (⟨p.tid, p.s, p.s + min r (p.e - p.s)⟩, p.s + min r (p.e - p.s)) := by
  simp only [inlineAdjust, Bool.false_eq_true, ↓reduceIte]
  split
  · next hc => rw [Nat.min_eq_left (Nat.le_of_lt hc)]
  · next hc => rw [Nat.min_eq_right (Nat.le_of_not_lt hc), Nat.add_sub_cancel' h1, ← h2]

theorem inlineAdjust_tid (orig : Bool) (r : Nat) (j : Job) (p : Part) : (inlineAdjust orig r j p).1.tid = p.tid := by
  simp only [inlineAdjust]
  split <;> split <;> rfl

/-- `step` as a relation, one rule per shape of successor state (`pop` and `jobDone` have two). -/
inductive Step (orig : Bool) (s : State) : Act → State → Prop
  | add (sz mr np ni : Nat) : Step orig s (.add sz mr np ni)
      { s with nsets := s.nsets + 1, size := upd s.size s.nsets sz, rtr := upd s.rtr s.nsets (max mr (sz / np)),
               count := upd s.count s.nsets 0,
               jobs := ⟨s.nsets, 0, sz, max mr (sz / ni), none, none⟩ :: s.jobs }
  | take {k j rest} (hp : pick s.jobs k = some (j, rest)) (hpn : j.pend = none) (hne : j.s ≠ j.e) :
      Step orig s (.take k)
        { s with count := upd s.count j.tid (s.count j.tid + 1),
                 jobs := { j with s := j.s + min j.rts (j.e - j.s),
                                  pend := some ⟨j.tid, j.s, j.s + min j.rts (j.e - j.s)⟩ } :: rest }
  | push {k j rest p} (hp : pick s.jobs k = some (j, rest)) (hpe : j.pend = some p) :
      Step orig s (.push k) { s with jobs := { j with pend := none } :: rest, queued := p :: s.queued }
  | inline {k j rest p} (hp : pick s.jobs k = some (j, rest)) (hpe : j.pend = some p) :
      Step orig s (.inline k)
        { s with jobs := { j with s := (inlineAdjust orig (s.rtr j.tid) j p).2, pend := none } :: rest,
                 inflight := (inlineAdjust orig (s.rtr j.tid) j p).1 :: s.inflight }
  | addDone {k j rest} (hp : pick s.jobs k = some (j, rest)) (hpn : j.pend = none) (he : j.s = j.e)
      (hco : j.cont = none) : Step orig s (.jobDone k) { s with jobs := rest }
  | popDone {k j rest c} (hp : pick s.jobs k = some (j, rest)) (hpn : j.pend = none) (he : j.s = j.e)
      (hco : j.cont = some c) : Step orig s (.jobDone k) { s with jobs := rest, inflight := c :: s.inflight }
  | popSplit {k q rest} (hp : pick s.queued k = some (q, rest)) (hc : s.rtr q.tid < q.e - q.s) :
      Step orig s (.pop k)
        { s with queued := rest,
                 jobs := ⟨q.tid, q.s + s.rtr q.tid, q.e, s.rtr q.tid, none, some ⟨q.tid, q.s, q.s + s.rtr q.tid⟩⟩ :: s.jobs }
  | popRun {k q rest} (hp : pick s.queued k = some (q, rest)) (hc : ¬ s.rtr q.tid < q.e - q.s) :
      Step orig s (.pop k) { s with queued := rest, inflight := q :: s.inflight }
  | exec {k p rest} (hp : pick s.inflight k = some (p, rest)) (hlt : p.s < p.e) :
      Step orig s (.exec k)
        { s with inflight := { p with s := p.s + 1 } :: rest, executed := (p.tid, p.s) :: s.executed }
  | finish {k p rest} (hp : pick s.inflight k = some (p, rest)) (hle : p.e ≤ p.s) :
      Step orig s (.finish k) { s with inflight := rest, count := upd s.count p.tid (s.count p.tid - 1) }

theorem Step.of_step {orig : Bool} {s s' : State} {a : Act} (h : step orig s a = some s') : Step orig s a s' := by
  have hmax : ∀ m a : Nat, (if a < m then m else a) = max m a := fun m a => by split <;> omega
  cases a <;> simp only [step, splitTask_eq, hmax] at h
  case add => cases h; exact .add ..
  case take =>
    split at h
    · next hp =>
      split at h <;> cases h
      next hc => exact .take hp (Option.isNone_iff_eq_none.1 hc.1) hc.2
    · cases h
  case push =>
    split at h
    · next hp => split at h <;> cases h; exact .push hp ‹_›
    · cases h
  case inline =>
    split at h
    · next hp => split at h <;> cases h; exact .inline hp ‹_›
    · cases h
  case jobDone =>
    split at h
    · next hp =>
      split at h
      · next hc =>
        split at h <;> cases h
        · exact .popDone hp (Option.isNone_iff_eq_none.1 hc.1) hc.2 ‹_›
        · exact .addDone hp (Option.isNone_iff_eq_none.1 hc.1) hc.2 ‹_›
      · cases h
    · cases h
  case pop =>
    split at h
    · next hp =>
      split at h
      · next hc => rw [Nat.min_eq_left (Nat.le_of_lt hc)] at h; cases h; exact .popSplit hp hc
      · cases h; exact .popRun hp ‹_›
    · cases h
  case exec =>
    split at h
    · next hp => split at h <;> cases h; exact .exec hp ‹_›
    · cases h
  case finish =>
    split at h
    · next hp => split at h <;> cases h; exact .finish hp (Nat.le_of_not_lt ‹_›)
    · cases h

theorem Part.cnt_split (p : Part) {m : Nat} (h1 : p.s ≤ m) (h2 : m ≤ p.e) (t i : Nat) :
    p.cnt t i = Part.cnt ⟨p.tid, p.s, m⟩ t i + Part.cnt ⟨p.tid, m, p.e⟩ t i := by
  simp only [Part.cnt]
  split <;> split <;> split <;> omega

theorem Part.cnt_empty (p : Part) (h : p.e ≤ p.s) (t i : Nat) : p.cnt t i = 0 := by
  simp only [Part.cnt]
  split <;> omega

theorem Part.cnt_unit (t s t' i : Nat) :
    Part.cnt ⟨t, s, s + 1⟩ t' i = if (t, s) = (t', i) then 1 else 0 := by
  simp only [Part.cnt, Prod.mk.injEq]
  split <;> split <;> omega

theorem Part.cnt_of_tid_ne {p : Part} {t : Nat} (h : p.tid ≠ t) (i : Nat) : p.cnt t i = 0 := by
  simp only [Part.cnt, h, false_and, ↓reduceIte]

theorem optCnt_of_tid_ne {o : Option Part} {t : Nat} (h : ∀ p, o = some p → p.tid ≠ t) (i : Nat) : optCnt o t i = 0 := by
  cases o with
  | none => rfl
  | some p => exact Part.cnt_of_tid_ne (h p rfl) i

theorem Part.cnt_from_zero (t e i : Nat) : Part.cnt ⟨t, 0, e⟩ t i = if i < e then 1 else 0 := by
  simp only [Part.cnt, Nat.zero_le, true_and]

/-- bounds within `[0, m_SetSize]`: `SplitTask`'s unsigned arithmetic does not wrap -/
structure Part.Wf (n : Nat) (size : Nat → Nat) (p : Part) : Prop where
  tid_lt : p.tid < n
  le : p.s ≤ p.e
  le_size : p.e ≤ size p.tid

structure Job.Wf (n : Nat) (size : Nat → Nat) (j : Job) : Prop where
  tid_lt : j.tid < n
  le : j.s ≤ j.e
  le_size : j.e ≤ size j.tid
  pend : ∀ p, j.pend = some p → p.tid = j.tid ∧ p.s ≤ p.e ∧ p.e = j.s
  cont : ∀ c, j.cont = some c → c.tid = j.tid ∧ c.Wf n size

theorem Part.Wf.mono {n n' : Nat} {size size' : Nat → Nat} {p : Part} (h : p.Wf n size) (hn : n ≤ n')
    (hz : ∀ t, t < n → size' t = size t) : p.Wf n' size' :=
  ⟨Nat.lt_of_lt_of_le h.tid_lt hn, h.le, (hz _ h.tid_lt).symm ▸ h.le_size⟩

theorem Job.Wf.mono {n n' : Nat} {size size' : Nat → Nat} {j : Job} (h : j.Wf n size) (hn : n ≤ n')
    (hz : ∀ t, t < n → size' t = size t) : j.Wf n' size' :=
  ⟨Nat.lt_of_lt_of_le h.tid_lt hn, h.le, (hz _ h.tid_lt).symm ▸ h.le_size, h.pend,
    fun c hc => ⟨(h.cont c hc).1, (h.cont c hc).2.mono hn hz⟩⟩

theorem Job.Wf.pend_wf {n : Nat} {size : Nat → Nat} {j : Job} {p : Part} (h : j.Wf n size) (hp : j.pend = some p) :
    p.Wf n size := by
  obtain ⟨q1, q2, q3⟩ := h.pend p hp
  exact ⟨q1 ▸ h.tid_lt, q2, by rw [q1, q3]; exact Nat.le_trans h.le h.le_size⟩

/-- What `Part.cnt_split` needs in every rule that cuts a range.  `fresh`: `add` gives set `nsets` a size and resets
    its count, and the conservation laws (`Step.cover_eq`, `Step.count_eq`) need that these were zero before. -/
structure State.Wf (s : State) : Prop where
  fresh : ∀ t, s.nsets ≤ t → s.size t = 0 ∧ s.count t = 0
  jobs : ∀ j ∈ s.jobs, j.Wf s.nsets s.size
  queued : ∀ p ∈ s.queued, p.Wf s.nsets s.size
  inflight : ∀ p ∈ s.inflight, p.Wf s.nsets s.size

theorem State.Wf.fresh_upd {s : State} (h : s.Wf) {a t : Nat} {v : Int} (ha : a < s.nsets) (ht : s.nsets ≤ t) :
    s.size t = 0 ∧ upd s.count a v t = 0 := by
  rw [upd_ne _ _ (Nat.ne_of_gt (Nat.lt_of_lt_of_le ha ht))]
  exact h.fresh t ht

theorem Step.wf {s s' : State} {a : Act} (hs : Step false s a s') (h : s.Wf) : s'.Wf := by
  cases hs with
  | add sz mr np ni =>
    have hsz : ∀ t, t < s.nsets → upd s.size s.nsets sz t = s.size t := fun t ht => upd_ne _ _ (Nat.ne_of_lt ht)
    refine ⟨fun t (ht : s.nsets + 1 ≤ t) => ?_,
      List.forall_mem_cons.2 ⟨⟨Nat.lt_succ_self _, Nat.zero_le _, Nat.le_of_eq (upd_same ..).symm, nofun, nofun⟩,
        fun j hj => (h.jobs j hj).mono (Nat.le_succ _) hsz⟩,
      fun p hp => (h.queued p hp).mono (Nat.le_succ _) hsz, fun p hp => (h.inflight p hp).mono (Nat.le_succ _) hsz⟩
    show upd s.size _ _ t = 0 ∧ upd s.count _ _ t = 0
    rw [upd_ne _ _ (by omega), upd_ne _ _ (by omega)]
    exact h.fresh t (by omega)
  | @take k j rest hp hpn hne =>
    obtain ⟨hj, hrest⟩ := (pick_forall hp).1 h.jobs
    exact ⟨fun t ht => h.fresh_upd hj.tid_lt ht,
      List.forall_mem_cons.2 ⟨{ hj with le := cut_le j.rts hj.le, pend := fun p hp => by cases hp; exact ⟨rfl, Nat.le_add_right .., rfl⟩ },
        hrest⟩,
      h.queued, h.inflight⟩
  | @push k j rest p hp hpe =>
    obtain ⟨hj, hrest⟩ := (pick_forall hp).1 h.jobs
    exact ⟨h.fresh, List.forall_mem_cons.2 ⟨{ hj with pend := nofun }, hrest⟩,
      List.forall_mem_cons.2 ⟨hj.pend_wf hpe, h.queued⟩, h.inflight⟩
  | @inline k j rest p hp hpe =>
    obtain ⟨hj, hrest⟩ := (pick_forall hp).1 h.jobs
    obtain ⟨q1, q2, q3⟩ := hj.pend p hpe
    obtain ⟨p1, -, p3⟩ := hj.pend_wf hpe
    rw [inlineAdjust_eq q2 q3]
    have hm := cut_le (s.rtr j.tid) q2
    exact ⟨h.fresh,
      List.forall_mem_cons.2 ⟨{ hj with le := Nat.le_trans hm (q3 ▸ hj.le), pend := nofun }, hrest⟩, h.queued,
      List.forall_mem_cons.2 ⟨⟨p1, Nat.le_add_right .., Nat.le_trans hm p3⟩, h.inflight⟩⟩
  | @addDone k j rest hp hpn he hco => exact ⟨h.fresh, ((pick_forall hp).1 h.jobs).2, h.queued, h.inflight⟩
  | @popDone k j rest c hp hpn he hco =>
    obtain ⟨hj, hrest⟩ := (pick_forall hp).1 h.jobs
    exact ⟨h.fresh, hrest, h.queued, List.forall_mem_cons.2 ⟨(hj.cont c hco).2, h.inflight⟩⟩
  | @popSplit k q rest hp hc =>
    obtain ⟨hq, hrest⟩ := (pick_forall hp).1 h.queued
    have hm : q.s + s.rtr q.tid ≤ q.e := by omega
    exact ⟨h.fresh,
      List.forall_mem_cons.2 ⟨⟨hq.tid_lt, hm, hq.le_size, nofun,
        fun c hc => by cases hc; exact ⟨rfl, hq.tid_lt, Nat.le_add_right .., Nat.le_trans hm hq.le_size⟩⟩, h.jobs⟩,
      hrest, h.inflight⟩
  | @popRun k q rest hp hc =>
    obtain ⟨hq, hrest⟩ := (pick_forall hp).1 h.queued
    exact ⟨h.fresh, h.jobs, hrest, List.forall_mem_cons.2 ⟨hq, h.inflight⟩⟩
  | @exec k p rest hp hlt =>
    obtain ⟨hw, hrest⟩ := (pick_forall hp).1 h.inflight
    exact ⟨h.fresh, h.jobs, h.queued, List.forall_mem_cons.2 ⟨{ hw with le := hlt }, hrest⟩⟩
  | @finish k p rest hp hle =>
    obtain ⟨hw, hrest⟩ := (pick_forall hp).1 h.inflight
    exact ⟨fun t ht => h.fresh_upd hw.tid_lt ht, h.jobs, h.queued, hrest⟩

/-- What a step does to the coverage count: nothing, except that `add` accounts once for every index of the new
    set.  Every rule moves a range, cuts one in two (`Part.cnt_split`) or drops an empty one. -/
theorem Step.cover_eq {s s' : State} {a : Act} (hs : Step false s a s') (h : s.Wf) (t i : Nat) :
    cover s' t i + (if i < s.size t then 1 else 0) = cover s t i + (if i < s'.size t then 1 else 0) := by
  cases hs with
  | add sz mr np ni =>
    simp only [cover, sumBy, Job.cnt, optCnt]
    by_cases e : t = s.nsets
    · subst e
      simp only [(h.fresh _ (Nat.le_refl _)).1, upd_same, Part.cnt_from_zero, Nat.not_lt_zero, ↓reduceIte]
      omega
    · simp only [upd_ne _ _ e, Part.cnt_of_tid_ne (p := ⟨s.nsets, 0, sz⟩) (Ne.symm e)]
      omega
  | @take k j rest hp hpn hne =>
    simp only [cover, pick_sum hp, sumBy, Job.cnt, hpn, optCnt,
      Part.cnt_split ⟨j.tid, j.s, j.e⟩ (Nat.le_add_right ..) (cut_le j.rts ((pick_forall hp).1 h.jobs).1.le)]
    omega
  | @push k j rest p hp hpe =>
    simp only [cover, pick_sum hp, sumBy, Job.cnt, hpe, optCnt]
    omega
  | @inline k j rest p hp hpe =>
    have hj := ((pick_forall hp).1 h.jobs).1
    obtain ⟨q1, q2, q3⟩ := hj.pend p hpe
    rw [inlineAdjust_eq q2 q3]
    have hm := cut_le (s.rtr j.tid) q2
    simp only [cover, pick_sum hp, sumBy, Job.cnt, hpe, optCnt, ← q1, ← q3,
      Part.cnt_split p (Nat.le_add_right ..) hm,
      Part.cnt_split ⟨p.tid, p.s + min (s.rtr p.tid) (p.e - p.s), j.e⟩ (m := p.e) (q1 ▸ hm) (q3 ▸ hj.le)]
    omega
  | @addDone k j rest hp hpn he hco =>
    simp only [cover, pick_sum hp, Job.cnt, hpn, hco, optCnt, Part.cnt_empty ⟨j.tid, j.s, j.e⟩ (Nat.le_of_eq he.symm)]
    omega
  | @popDone k j rest c hp hpn he hco =>
    simp only [cover, pick_sum hp, sumBy, Job.cnt, hpn, hco, optCnt,
      Part.cnt_empty ⟨j.tid, j.s, j.e⟩ (Nat.le_of_eq he.symm)]
    omega
  | @popSplit k q rest hp hc =>
    have hm : q.s + s.rtr q.tid ≤ q.e := by omega
    simp only [cover, pick_sum hp, sumBy, Job.cnt, optCnt, Part.cnt_split q (Nat.le_add_right ..) hm]
    omega
  | @popRun k q rest hp hc =>
    simp only [cover, pick_sum hp, sumBy]
    omega
  | @exec k p rest hp hlt =>
    simp only [cover, pick_sum hp, sumBy, Part.cnt_split p (Nat.le_add_right _ 1) hlt, Part.cnt_unit]
    omega
  | @finish k p rest hp hle =>
    simp only [cover, pick_sum hp, Part.cnt_empty p hle]
    omega

/-- the indicator of `t = a` is written `tidIs p t`, as `pending` has it for the partition `p` that takes or gives back
    the unit -/
theorem upd_count (c : Nat → Int) (a : Nat) (d : Int) (p : Part) (hp : p.tid = a) (t : Nat) :
    upd c a (c a + d) t = c t + d * (tidIs p t : Int) := by
  simp only [upd, tidIs, hp]
  by_cases h : t = a
  · subst h; simp
  · have : ¬ a = t := fun e => h e.symm
    simp [h, this]

/-- Holds of the transition as it was before the fix as well (`orig`): the fix changes ranges, not who holds a unit
    of the count. -/
theorem Step.count_eq {orig : Bool} {s s' : State} {a : Act} (hs : Step orig s a s') (hf : s.count s.nsets = 0)
    (t : Nat) : s'.count t + pending s t = s.count t + pending s' t := by
  cases hs with
  | add sz mr np ni =>
    simp only [pending, sumBy, optTidIs, upd]
    split
    · next e => subst e; omega
    · omega
  | @take k j rest hp hpn hne =>
    have := upd_count s.count j.tid 1 ⟨j.tid, j.s, j.s + min j.rts (j.e - j.s)⟩ rfl t
    simp only [pending, pick_sum hp, sumBy, hpn, optTidIs] at *
    omega
  | @push k j rest p hp hpe =>
    simp only [pending, pick_sum hp, sumBy, hpe, optTidIs]
    omega
  | @inline k j rest p hp hpe =>
    simp only [pending, pick_sum hp, sumBy, hpe, optTidIs, tidIs, inlineAdjust_tid]
    omega
  | @addDone k j rest hp hpn he hco =>
    simp only [pending, pick_sum hp, hpn, hco, optTidIs]
    omega
  | @popDone k j rest c hp hpn he hco =>
    simp only [pending, pick_sum hp, sumBy, hpn, hco, optTidIs]
    omega
  | @popSplit k q rest hp hc =>
    simp only [pending, pick_sum hp, sumBy, optTidIs, tidIs]
    omega
  | @popRun k q rest hp hc =>
    simp only [pending, pick_sum hp, sumBy]
    omega
  | @exec k p rest hp hlt =>
    simp only [pending, pick_sum hp, sumBy, tidIs]
  | @finish k p rest hp hle =>
    have := upd_count s.count p.tid (-1) p rfl t
    simp only [pending, pick_sum hp, Int.sub_eq_add_neg] at *
    omega

/-- `cov` and `cnt` are what `sched_inv` states; `wf` is what their preservation needs. -/
structure Inv (s : State) : Prop where
  wf : s.Wf
  cov : ∀ t i, cover s t i = if i < s.size t then 1 else 0
  cnt : ∀ t, s.count t = (pending s t : Int)

theorem inv_step {s s' : State} {a : Act} (h : Inv s) (hs : step false s a = some s') : Inv s' := by
  have hs := Step.of_step hs
  refine ⟨hs.wf h.wf, fun t i => ?_, fun t => ?_⟩
  · have := hs.cover_eq h.wf t i
    have := h.cov t i
    omega
  · have := hs.count_eq (h.wf.fresh _ (Nat.le_refl _)).2 t
    have := h.cnt t
    omega

theorem inv_reachable {s : State} (h : Reachable s) : Inv s := by
  induction h with
  | init => exact ⟨by constructor <;> simp [init], by simp [init, cover, sumBy], by simp [init, pending, sumBy]⟩
  | step a _ hs ih => exact inv_step ih hs

theorem inv_wait {s : State} {t : Nat} (h : Inv s) (hw : waitMayReturn s t) :
    (∀ i, s.executed.count (t, i) = if i < s.size t then 1 else 0) ∧
    (∀ p ∈ s.queued, p.tid ≠ t) ∧ (∀ p ∈ s.inflight, p.tid ≠ t) ∧ (∀ j ∈ s.jobs, j.tid ≠ t) := by
  obtain ⟨⟨-, hadd⟩, hc0⟩ := hw
  have hp : pending s t = 0 := by have := h.cnt t; omega
  simp only [pending, Nat.add_eq_zero_iff, sumBy_eq_zero_iff] at hp
  obtain ⟨⟨hq, hi⟩, hj⟩ := hp
  have tid_ne : ∀ p : Part, tidIs p t = 0 → p.tid ≠ t := fun p hp e => by simp [tidIs, e] at hp
  have hj' : ∀ j ∈ s.jobs, j.tid ≠ t := fun j hjm hjt => by
    cases hco : j.cont with
    | none => exact hadd j hjm hjt hco
    | some c => exact tid_ne c (by have := (hj j hjm).2; rwa [hco] at this) (((h.wf.jobs j hjm).cont c hco).1.trans hjt)
  refine ⟨fun i => ?_, fun p hp => tid_ne p (hq p hp), fun p hp => tid_ne p (hi p hp), hj'⟩
  have := h.cov t i
  rwa [cover, sumBy_indicator_count, (sumBy_eq_zero_iff ..).2 fun p hp => Part.cnt_of_tid_ne (tid_ne p (hq p hp)) i,
    (sumBy_eq_zero_iff ..).2 fun p hp => Part.cnt_of_tid_ne (tid_ne p (hi p hp)) i,
    (sumBy_eq_zero_iff ..).2 fun j hjm => ?_] at this
  have hw := h.wf.jobs j hjm
  have hne := hj' j hjm
  rw [Job.cnt, Part.cnt_of_tid_ne (p := ⟨j.tid, j.s, j.e⟩) hne, optCnt_of_tid_ne fun p hp => (hw.pend p hp).1 ▸ hne,
    optCnt_of_tid_ne fun c hc => (hw.cont c hc).1 ▸ hne]

end RkVerif.C01
