/-
Helper lemmas for C10.  FlatMap: what `set`, `erase` and appending do to `lookup` (one equation each, for
every key) and to `keys`.  ParameterizedObject: the same for `findParam` and `pnames` under `setParam`,
`markQueried`, `removeParam`, `resetQuery`.
-/
import RkVerif.Model.C10
-- the statements about `Params` below (and `nodup_snoc`) do not use the `[DecidableEq _]` of the `variable` lines
-- (of the model's functions on `Params` only `getParam` takes one), and `findParam_name` is stated with it
set_option linter.unusedSectionVars false
namespace RkVerif.C10
variable {K V : Type} [DecidableEq K]

theorem lookup_none_iff (m : Items K V) (k : K) : lookup m k = none ↔ k ∉ keys m := by
  induction m with
  | nil => simp [lookup, keys]
  | cons a rest ih => grind [lookup, keys]

theorem mem_keys_of_lookup (m : Items K V) (k : K) (v : V) (h : lookup m k = some v) : k ∈ keys m := by
  have := lookup_none_iff m k; grind

theorem lookup_of_mem (m : Items K V) (k : K) (v : V) (hn : (keys m).Nodup) (h : (k, v) ∈ m) :
    lookup m k = some v := by
  induction m with
  | nil => cases h
  | cons a rest ih =>
    simp only [keys, List.map_cons, List.nodup_cons] at hn
    rcases List.mem_cons.mp h with rfl | h'
    · simp [lookup]
    · have hne : a.1 ≠ k := fun e => hn.1 (e ▸ List.mem_map_of_mem (f := Prod.fst) h')
      simpa [lookup, hne] using ih hn.2 h'

theorem keys_set (m : Items K V) (k : K) (v : V) :
    keys (set m k v) = if k ∈ keys m then keys m else keys m ++ [k] := by
  induction m with
  | nil => simp [set, keys]
  | cons a rest ih => grind [set, keys]

theorem lookup_set (m : Items K V) (k x : K) (v : V) :
    lookup (set m k v) x = if x = k then some v else lookup m x := by
  induction m with
  | nil => grind [set, lookup]
  | cons a rest ih => grind [set, lookup]

theorem lookup_append_absent (m : Items K V) (k k2 : K) (d : V) (hk : lookup m k = none) :
    lookup (m ++ [(k, d)]) k2 = if k2 = k then some d else lookup m k2 := by
  induction m with
  | nil => grind [lookup]
  | cons a rest ih => grind [lookup]

theorem keys_erase (m : Items K V) (k : K) : keys (erase m k) = (keys m).filter (· ≠ k) := by
  induction m with
  | nil => simp [erase, keys]
  | cons a rest ih => grind [erase, keys]

theorem lookup_erase (m : Items K V) (k x : K) :
    lookup (erase m k) x = if x = k then none else lookup m x := by
  induction m with
  | nil => simp [erase, lookup]
  | cons a rest ih => grind [erase, lookup]

theorem nodup_snoc (l : List K) (k : K) (h : l.Nodup) (hk : k ∉ l) : (l ++ [k]).Nodup := by
  rw [List.nodup_append]; grind

variable {T A : Type} [DecidableEq T]

def pnames (ps : Params T A) : List String := ps.map (·.name)

theorem findParam_none_iff (ps : Params T A) (n : String) : findParam ps n = none ↔ n ∉ pnames ps := by
  induction ps with
  | nil => simp [findParam, pnames]
  | cons p rest ih => grind [findParam, pnames]

theorem findParam_name (ps : Params T A) (n : String) (p : Param T A) (h : findParam ps n = some p) :
    p.name = n := by
  induction ps with
  | nil => simp [findParam] at h
  | cons q rest ih => grind [findParam]

theorem pnames_set (ps : Params T A) (n : String) (t : T) (v : A) :
    pnames (setParam ps n t v) = if n ∈ pnames ps then pnames ps else pnames ps ++ [n] := by
  induction ps with
  | nil => simp [setParam, pnames]
  | cons p rest ih => grind [setParam, pnames]

theorem pnames_mark (ps : Params T A) (n : String) : pnames (markQueried ps n) = pnames ps := by
  induction ps with
  | nil => simp [markQueried, pnames]
  | cons p rest ih => grind [markQueried, pnames]

theorem pnames_remove_sublist (ps : Params T A) (n : String) :
    (pnames (removeParam ps n)).Sublist (pnames ps) := by
  induction ps with
  | nil => simp [removeParam, pnames]
  | cons p rest ih =>
    simp only [pnames] at ih
    by_cases h : p.name = n
    · simp [removeParam, pnames, h]
    · simp [removeParam, pnames, h, ih]

theorem findParam_mark (ps : Params T A) (n x : String) :
    findParam (markQueried ps n) x =
      if x = n then (findParam ps n).map fun p => { p with query := true } else findParam ps x := by
  induction ps with
  | nil => simp [markQueried, findParam]
  | cons q rest ih => grind [findParam, markQueried]

theorem findParam_set (ps : Params T A) (n x : String) (t : T) (v : A) :
    findParam (setParam ps n t v) x =
      if x = n then some ⟨n, t, v, ((findParam ps n).map (·.query)).getD false⟩ else findParam ps x := by
  induction ps with
  | nil => grind [setParam, findParam]
  | cons q rest ih => grind [findParam, setParam]

theorem findParam_remove (ps : Params T A) (n x : String) (hn : (pnames ps).Nodup) :
    findParam (removeParam ps n) x = if x = n then none else findParam ps x := by
  induction ps with
  | nil => simp [removeParam, findParam]
  | cons q rest ih =>
    have := findParam_none_iff rest n
    grind [findParam, removeParam, pnames]

theorem findParam_reset (ps : Params T A) (n : String) :
    findParam (resetQuery ps) n = (findParam ps n).map (fun p => { p with query := false }) := by
  induction ps with
  | nil => simp [resetQuery, findParam]
  | cons q rest ih =>
    grind [findParam, resetQuery]

end RkVerif.C10
