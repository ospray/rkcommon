/-
Helper lemmas for C20 (trace recorder), token level: objects with members that are atoms or one
nested object of atoms, as data (`JO`).  Their tokens (`JO.toks`) are a JSON value and the reader
`pstep` takes them as one array element with value `JO.flat`; so a comma-separated sequence of
such objects between brackets is a `JArr` and `parseArray` returns the `flat`s, with nothing to
show about the single objects.
-/
import RkVerif.Model.C20
namespace RkVerif.C20
open Tok

/-- the stream as `saveLog` emits it: every object followed by a comma (the last one is overwritten by `finish`) -/
def withCommas (objs : List (List Tok)) : List Tok := objs.flatMap (· ++ [comma])

def sepBy : List (List Tok) → List Tok
  | [] => []
  | [o] => o
  | o :: o' :: os => o ++ comma :: sepBy (o' :: os)

inductive Fld where
  | atom (v : Val)
  | sub (m : String × Val) (ms : List (String × Val))

/-- an object of the output.  Head and tail, here and in `Fld.sub`, because the reader rejects `{}` -/
structure JO where
  hd : String × Fld
  tl : List (String × Fld)

def Val.tok : Val → Tok
  | .s v => str v | .n v => num v | .f => flt

def members {α : Type} (val : α → List Tok) (ms : List (String × α)) : List Tok :=
  sepBy (ms.map fun m => str m.1 :: colon :: val m.2)

def Fld.toks : Fld → List Tok
  | .atom v => [v.tok]
  | .sub m ms => lbrace :: members (fun v => [v.tok]) (m :: ms) ++ [rbrace]

def JO.toks (o : JO) : List Tok := lbrace :: members Fld.toks (o.hd :: o.tl) ++ [rbrace]

def Fld.flat (k : String) : Fld → Obj
  | .atom v => [(k, v)]
  | .sub m ms => (m :: ms).map fun p => (k ++ "." ++ p.1, p.2)

def JO.flat (o : JO) : Obj := (o.hd :: o.tl).flatMap fun m => m.2.flat m.1

theorem members_cons {α : Type} (val : α → List Tok) (m : String × α) (ms : List (String × α)) :
    members val (m :: ms) = str m.1 :: colon :: val m.2 ++ ms.flatMap fun m => comma :: str m.1 :: colon :: val m.2 := by
  induction ms generalizing m with
  | nil => simp [members, sepBy]
  | cons m' ms ih => have := ih m'; simp only [members, List.map_cons, sepBy] at this ⊢; simp [this]

theorem JMembers_members {α : Type} (val : α → List Tok) (h : ∀ x, JVal (val x)) (m : String × α)
    (ms : List (String × α)) : JMembers (members val (m :: ms)) := by
  induction ms generalizing m with
  | nil => exact .one _ (h _)
  | cons m' ms ih => exact .cons _ (h _) (ih m')

theorem JVal_tok (v : Val) : JVal [v.tok] := by cases v <;> constructor

theorem JVal_toks (o : JO) : JVal o.toks :=
  .obj (.mk (JMembers_members _ (fun x => by
    cases x with
    | atom v => exact JVal_tok v
    | sub m ms => exact .obj (.mk (JMembers_members _ JVal_tok m ms))) _ _))

theorem JElems_toks (o : JO) (os : List JO) : JElems (sepBy ((o :: os).map JO.toks)) := by
  induction os generalizing o with
  | nil => exact .one (JVal_toks o)
  | cons o' os ih => exact .cons (JVal_toks o) (ih o')

theorem JArr_sepBy (os : List JO) : JArr (lbrack :: sepBy (os.map JO.toks) ++ [rbrack]) := by
  cases os with
  | nil => exact .empty
  | cons o os => exact .mk (JElems_toks o os)

theorem foldl_sepBy_cons {σ : Type} (f : σ → Tok → σ) (s : σ) (x y : List Tok) (rest : List (List Tok)) :
    (sepBy (x :: y :: rest)).foldl f s = (sepBy (y :: rest)).foldl f (f (x.foldl f s) comma) := by
  rw [sepBy, List.foldl_append, List.foldl_cons]

theorem run_atoms (n : Bool) (acc : List Obj) (pre : String) (m : String × Val) (ms : List (String × Val)) (cur : Obj) :
    (members (fun v => [v.tok]) (m :: ms)).foldl pstep ⟨.key n, acc, cur, pre⟩ =
      ⟨.after n, acc, cur ++ (m :: ms).map fun p => (fullKey n pre p.1, p.2), pre⟩ := by
  have one (m : String × Val) (cur : Obj) : [str m.1, colon, m.2.tok].foldl pstep ⟨.key n, acc, cur, pre⟩ =
      ⟨.after n, acc, cur ++ [(fullKey n pre m.1, m.2)], pre⟩ := by
    obtain ⟨k, v⟩ := m; cases v <;> rfl
  have sep (cur : Obj) : pstep ⟨.after n, acc, cur, pre⟩ comma = ⟨.key n, acc, cur, pre⟩ := by cases n <;> rfl
  induction ms generalizing m cur with
  | nil => exact one m cur
  | cons m' ms ih =>
    rw [members, List.map_cons, List.map_cons, foldl_sepBy_cons, one, sep]
    exact (ih m' _).trans (by rw [List.append_assoc]; rfl)

theorem run_fields (acc : List Obj) (m : String × Fld) (ms : List (String × Fld)) (cur : Obj) (pre : String) :
    ∃ pre', (members Fld.toks (m :: ms)).foldl pstep ⟨.key false, acc, cur, pre⟩ =
      ⟨.after false, acc, cur ++ (m :: ms).flatMap fun m => m.2.flat m.1, pre'⟩ := by
  have one (m : String × Fld) (cur : Obj) (pre : String) :
      ∃ pre', (str m.1 :: colon :: m.2.toks).foldl pstep ⟨.key false, acc, cur, pre⟩ =
        ⟨.after false, acc, cur ++ m.2.flat m.1, pre'⟩ := by
    obtain ⟨k, v | ⟨a, as⟩⟩ := m
    · exact ⟨pre, by cases v <;> rfl⟩
    · have e : pstep (pstep (pstep ⟨.key false, acc, cur, pre⟩ (str k)) colon) lbrace = ⟨.key true, acc, cur, k⟩ := rfl
      refine ⟨k, ?_⟩
      rw [Fld.toks, List.foldl_cons, List.foldl_cons, List.cons_append, List.foldl_cons, e, List.foldl_append, run_atoms]
      rfl
  induction ms generalizing m cur pre with
  | nil => exact (one m cur pre).imp fun _ h => h.trans (by rw [List.flatMap_cons, List.flatMap_nil, List.append_nil])
  | cons m' ms ih =>
    obtain ⟨p1, h1⟩ := one m cur pre
    obtain ⟨p2, h2⟩ := ih m' (cur ++ m.2.flat m.1) p1
    refine ⟨p2, ?_⟩
    rw [members, List.map_cons, List.map_cons, foldl_sepBy_cons, h1]
    exact h2.trans (by rw [List.append_assoc]; rfl)

theorem run_obj (o : JO) (m : Mode) (hm : m = .first ∨ m = .elem) (acc : List Obj) :
    o.toks.foldl pstep ⟨m, acc, [], ""⟩ = ⟨.afterObj, o.flat :: acc, [], ""⟩ := by
  obtain ⟨p, h⟩ := run_fields acc o.hd o.tl [] ""
  have e : pstep ⟨m, acc, [], ""⟩ lbrace = ⟨.key false, acc, [], ""⟩ := by rcases hm with rfl | rfl <;> rfl
  rw [JO.toks, List.cons_append, List.foldl_cons, e, List.foldl_append, h]
  rfl

theorem parseArray_sepBy (os : List JO) :
    parseArray (lbrack :: sepBy (os.map JO.toks) ++ [rbrack]) = some (os.map JO.flat) := by
  have run (o : JO) (os : List JO) (m : Mode) (hm : m = .first ∨ m = .elem) (acc : List Obj) :
      (sepBy ((o :: os).map JO.toks)).foldl pstep ⟨m, acc, [], ""⟩ =
        ⟨.afterObj, ((o :: os).map JO.flat).reverse ++ acc, [], ""⟩ := by
    induction os generalizing o m acc with
    | nil => exact run_obj o m hm acc
    | cons o' os ih =>
      rw [List.map_cons, List.map_cons, foldl_sepBy_cons, run_obj o m hm]
      exact (ih o' .elem (.inr rfl) (o.flat :: acc)).trans (by simp)
  cases os with
  | nil => rfl
  | cons o os =>
    have h0 : pstep psInit lbrack = ⟨.first, [], [], ""⟩ := rfl
    have h1 (r : List Obj) : pstep ⟨.afterObj, r, [], ""⟩ rbrack = ⟨.done, r, [], ""⟩ := rfl
    rw [parseArray, List.cons_append, List.foldl_cons, List.foldl_append, h0, run o os .first (.inl rfl), List.foldl_cons,
      h1]
    simp

end RkVerif.C20
