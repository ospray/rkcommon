/-
Model for C03 — rkcommon/tasking/AsyncLoop.h as a finite transition system `AsyncLoopM`.

One transition per shared-memory access (flag read, flag write, lock, unlock, wait, notify, join),
in the order of the source.  Sequential consistency; std::mutex / std::condition_variable /
std::thread::join are contracts (see notes/C03.md).  Core Lean only (the driver links this file).

Two code variants are modelled:
  * `fixed = false` : the loop body as it is in the pinned tree
        if (shouldBeRunning) { insideLoopBody = true; fcn(); insideLoopBody = false; } else { lock; wait }
  * `fixed = true`  : after fixes/C03-stop-race.patch
        insideLoopBody = true;
        if (shouldBeRunning) { fcn(); insideLoopBody = false; } else { insideLoopBody = false; lock; wait }
and two launch methods (`thread = true`: the destructor joins; `thread = false`: TASK, no join).
-/
namespace RkVerif.C03

/-- Program counter of the loop thread.  The comment gives the *next* action taken from that pc. -/
inductive LPc
  | top      -- read threadShouldBeAlive (while condition)
  | alive1   -- read threadShouldBeAlive (if (!alive) return)
  | alive2   -- fixed: write insideLoopBody = true      | orig: read shouldBeRunning
  | pub      -- fixed: read shouldBeRunning             | orig: call fcn()
  | run      -- fixed: call fcn()                       | orig: write insideLoopBody = true
  | body     -- inside fcn(); next: fcn() returns
  | done     -- write insideLoopBody = false
  | norun    -- fixed: write insideLoopBody = false     | orig: lock runningMutex
  | prelock  -- (fixed only) lock runningMutex
  | pred     -- holding the mutex, in the wait predicate: read shouldBeRunning
  | pred2    -- holding the mutex: read threadShouldBeAlive
  | pdT      -- predicate evaluated to true: leave wait()
  | pdF      -- predicate evaluated to false: atomically release the mutex and block
  | waiting  -- blocked in condition_variable::wait, mutex released
  | woken    -- notified (or spuriously woken): re-acquire the mutex, then evaluate the predicate
  | wdone    -- wait() returned: unlock (end of the else scope)
  | exited   -- mainLoop returned
  deriving DecidableEq, Repr, Inhabited

/-- Program counter of the controlling thread. -/
inductive CPc
  | idle
  | st0      -- start(): read shouldBeRunning
  | st1      -- lock
  | st2      -- write shouldBeRunning = true
  | st3      -- unlock
  | st4      -- notify_one, return
  | sp0      -- stop(): read shouldBeRunning
  | sp1      -- write shouldBeRunning = false
  | sp2      -- read insideLoopBody (first evaluation of the spin condition)
  | sp3      -- yield; read insideLoopBody
  | d0       -- ~AsyncLoop(): lock
  | d1       -- write threadShouldBeAlive = false
  | d2       -- write shouldBeRunning = false
  | d3       -- unlock
  | d4       -- notify_one
  | d5       -- join if joinable (THREAD launch), return
  | dead     -- destructor returned
  deriving DecidableEq, Repr, Inhabited

inductive Owner | free | loop | ctl
  deriving DecidableEq, Repr, Inhabited

structure State where
  lpc : LPc
  cpc : CPc
  alive : Bool      -- threadShouldBeAlive
  running : Bool    -- shouldBeRunning
  inside : Bool     -- insideLoopBody
  mtx : Owner       -- runningMutex
  stopped : Bool    -- ghost: stop() has returned and start() has not been called since
  started : Bool    -- ghost: start() has returned and no member function has been called since
  deriving DecidableEq, Repr, Inhabited

structure Cfg where
  fixed : Bool
  thread : Bool
  deriving DecidableEq, Repr

def init : State :=
  { lpc := .top, cpc := .idle, alive := true, running := false, inside := false, mtx := .free,
    stopped := false, started := false }

/-- ghost: a body invocation is executing -/
def State.bodyRunning (s : State) : Bool := s.lpc == .body
/-- ghost: the destructor has returned -/
def State.destroyed (s : State) : Bool := s.cpc == .dead

/-- The (deterministic) next step of the loop thread; `none` when it is blocked or has exited. -/
def loopStep (c : Cfg) (s : State) : Option State :=
  match s.lpc with
  | .top => some { s with lpc := if s.alive then .alive1 else .exited }
  | .alive1 => some { s with lpc := if s.alive then .alive2 else .exited }
  | .alive2 =>
      if c.fixed then some { s with inside := true, lpc := .pub }
      else some { s with lpc := if s.running then .run else .norun }
  | .pub =>
      if c.fixed then some { s with lpc := if s.running then .run else .norun }
      else some { s with lpc := .body }
  | .run =>
      if c.fixed then some { s with lpc := .body }
      else some { s with inside := true, lpc := .pub }
  | .body => some { s with lpc := .done }
  | .done => some { s with inside := false, lpc := .top }
  | .norun =>
      if c.fixed then some { s with inside := false, lpc := .prelock }
      else if s.mtx == .free then some { s with mtx := .loop, lpc := .pred } else none
  | .prelock => if s.mtx == .free then some { s with mtx := .loop, lpc := .pred } else none
  | .pred => some { s with lpc := if s.running then .pdT else .pred2 }
  | .pred2 => some { s with lpc := if !s.alive then .pdT else .pdF }
  | .pdT => some { s with lpc := .wdone }
  | .pdF => some { s with mtx := .free, lpc := .waiting }
  | .waiting => none
  | .woken => if s.mtx == .free then some { s with mtx := .loop, lpc := .pred } else none
  | .wdone => some { s with mtx := .free, lpc := .top }
  | .exited => none

/-- A spurious wake-up of condition_variable::wait. -/
def spurStep (s : State) : Option State :=
  if s.lpc == .waiting then some { s with lpc := .woken } else none

/-- notify_one: wakes the loop thread if it is blocked in wait, otherwise it is lost. -/
def notify (s : State) : State :=
  if s.lpc == .waiting then { s with lpc := .woken } else s

inductive Call | start | stop | destroy
  deriving DecidableEq, Repr, Inhabited

/-- The next step of the controlling thread.  When idle, `call` is the member function it calls
    (the call itself touches no shared memory; it updates the ghosts). -/
def ctlStep (c : Cfg) (s : State) (call : Call) : Option State :=
  match s.cpc with
  | .idle =>
      match call with
      | .start => some { s with cpc := .st0, stopped := false, started := false }
      | .stop => some { s with cpc := .sp0, started := false }
      | .destroy => some { s with cpc := .d0, started := false }
  | .st0 => if s.running then some { s with cpc := .idle, started := true } else some { s with cpc := .st1 }
  | .st1 => if s.mtx == .free then some { s with mtx := .ctl, cpc := .st2 } else none
  | .st2 => some { s with running := true, cpc := .st3 }
  | .st3 => some { s with mtx := .free, cpc := .st4 }
  | .st4 => some { notify s with cpc := .idle, started := true }
  | .sp0 => if s.running then some { s with cpc := .sp1 } else some { s with cpc := .idle, stopped := true }
  | .sp1 => some { s with running := false, cpc := .sp2 }
  | .sp2 => if s.inside then some { s with cpc := .sp3 } else some { s with cpc := .idle, stopped := true }
  | .sp3 => if s.inside then some { s with cpc := .sp3 } else some { s with cpc := .idle, stopped := true }
  | .d0 => if s.mtx == .free then some { s with mtx := .ctl, cpc := .d1 } else none
  | .d1 => some { s with alive := false, cpc := .d2 }
  | .d2 => some { s with running := false, cpc := .d3 }
  | .d3 => some { s with mtx := .free, cpc := .d4 }
  | .d4 => some { notify s with cpc := .d5 }
  | .d5 => if c.thread then (if s.lpc == .exited then some { s with cpc := .dead } else none)
           else some { s with cpc := .dead }
  | .dead => none

inductive Thread | loop | ctl
  deriving DecidableEq, Repr, Inhabited

def optL {α : Type} : Option α → List α
  | some a => [a]
  | none => []

/-- Steps of the controlling thread (all three calls when idle). -/
def ctlSteps (c : Cfg) (s : State) : List State :=
  if s.cpc == .idle then optL (ctlStep c s .start) ++ optL (ctlStep c s .stop) ++ optL (ctlStep c s .destroy)
  else optL (ctlStep c s .start)

/-- Steps of the loop thread, spurious wake-ups excluded. -/
def loopSteps (c : Cfg) (s : State) : List State := optL (loopStep c s)

/-- Labelled successors without spurious wake-ups. -/
def stepNS (c : Cfg) (s : State) : List (Thread × State) :=
  (loopSteps c s).map (fun t => (Thread.loop, t)) ++ (ctlSteps c s).map (fun t => (Thread.ctl, t))

/-- All successors: any interleaving, any call sequence, spurious wake-ups included. -/
def step (c : Cfg) (s : State) : List State :=
  loopSteps c s ++ optL (spurStep s) ++ ctlSteps c s

/-- States reachable by executions of any length. -/
inductive Reachable (c : Cfg) : State → Prop
  | init : Reachable c init
  | step {s t : State} : Reachable c s → t ∈ step c s → Reachable c t

/-! ### Structural list helpers that reduce well in the kernel -/

def mem (s : State) : List State → Bool
  | [] => false
  | x :: xs => if x = s then true else mem s xs

theorem mem_iff (s : State) (l : List State) : mem s l = true ↔ s ∈ l := by
  induction l with
  | nil => simp [mem]
  | cons x xs ih => by_cases h : x = s <;> simp [mem, h, ih, eq_comm (a := s)]

/-- Worklist closure (used only to *compute* the certificate lists in Gen/C03Reach.lean). -/
def closure (c : Cfg) : Nat → List State → List State → List State
  | 0, _, seen => seen
  | _ + 1, [], seen => seen
  | fuel + 1, s :: todo, seen =>
      let new := (step c s).foldl (fun acc t => if mem t seen || mem t acc then acc else acc ++ [t]) []
      closure c fuel (todo ++ new) (seen ++ new)

/-! ### Numeric encoding of states (certificate checking with kernel-accelerated `Nat` operations) -/

def LPc.n : LPc → Nat
  | .top => 0 | .alive1 => 1 | .alive2 => 2 | .pub => 3 | .run => 4 | .body => 5 | .done => 6 | .norun => 7
  | .prelock => 8 | .pred => 9 | .pred2 => 10 | .pdT => 11 | .pdF => 12 | .waiting => 13 | .woken => 14
  | .wdone => 15 | .exited => 16
def CPc.n : CPc → Nat
  | .idle => 0 | .st0 => 1 | .st1 => 2 | .st2 => 3 | .st3 => 4 | .st4 => 5 | .sp0 => 6 | .sp1 => 7 | .sp2 => 8
  | .sp3 => 9 | .d0 => 10 | .d1 => 11 | .d2 => 12 | .d3 => 13 | .d4 => 14 | .d5 => 15 | .dead => 16
def Owner.n : Owner → Nat | .free => 0 | .loop => 1 | .ctl => 2
def bn (b : Bool) : Nat := if b then 1 else 0

/-- mixed-radix code of a state (injective: Lemmas/C03.lean `code_inj`) -/
def code (s : State) : Nat :=
  ((((((s.lpc.n * 17 + s.cpc.n) * 2 + bn s.alive) * 2 + bn s.running) * 2 + bn s.inside) * 3 + s.mtx.n) * 2
    + bn s.stopped) * 2 + bn s.started

/-- the set of codes of a list of states as a bit mask -/
def maskOf : List State → Nat
  | [] => 0
  | s :: r => (1 <<< code s) ||| maskOf r

def CPc.inDtor : CPc → Bool
  | .d0 | .d1 | .d2 | .d3 | .d4 | .d5 => true
  | _ => false

def CPc.inStart : CPc → Bool
  | .st0 | .st1 | .st2 | .st3 | .st4 => true
  | _ => false
def CPc.inStop : CPc → Bool
  | .sp0 | .sp1 | .sp2 | .sp3 => true
  | _ => false
def CPc.isDead : CPc → Bool
  | .dead => true
  | _ => false
def CPc.isIdle : CPc → Bool
  | .idle => true
  | _ => false

def enabled (c : Cfg) (t : Thread) (s : State) : Bool := (stepNS c s).any (fun p => p.1 == t)

/-! ### Hook-point names (the tie): which named scheduling point each pc is parked at -/

def LPc.point : LPc → String
  | .top => "loop.top" | .alive1 => "loop.alive1" | .alive2 => "loop.alive2" | .pub => "loop.published"
  | .run => "loop.run" | .body => "body.in" | .done => "loop.body_done" | .norun => "loop.norun"
  | .prelock => "loop.before_lock" | .pred => "loop.pred" | .pred2 => "-" | .pdT => "loop.pred_done"
  | .pdF => "loop.pred_done" | .waiting => "blocked" | .woken => "blocked" | .wdone => "loop.wait_done"
  | .exited => "loop.exit"

/-- pcs without a hook point in front of them: a grant runs through them. -/
def LPc.invisible : LPc → Bool
  | .pred2 => true
  | _ => false

def CPc.point : CPc → String
  | .idle => "ctl.idle" | .st0 => "start.enter" | .st1 => "start.before_lock" | .st2 => "start.locked"
  | .st3 => "start.written" | .st4 => "start.unlocked" | .sp0 => "stop.enter" | .sp1 => "stop.before_clear"
  | .sp2 => "stop.cleared" | .sp3 => "stop.yield" | .d0 => "dtor.enter" | .d1 => "dtor.locked"
  | .d2 => "dtor.alive_cleared" | .d3 => "dtor.written" | .d4 => "dtor.unlocked" | .d5 => "dtor.notified"
  | .dead => "ctl.dead"

/-- One *grant* of the loop thread as the harness sees it: run to the next hook point (or block). -/
def grantLoop (c : Cfg) (s : State) : Option State :=
  match loopStep c s with
  | none => none
  | some t => if t.lpc.invisible then loopStep c t else some t

end RkVerif.C03
