/-
Model of
  rkcommon/utility/multidim_index_sequence.h   (index_sequence_2D / _3D and their iterator)
  rkcommon/array3D/for_each.h                  (longProduct, longIndex, coordsOf, for_each)
  rkcommon/array3D/Array3D.h                   (Array3D, ActualArray3D, IndexShiftedArray3D,
                                                Array3DAccessor, SubBoxArray3D, MultiSliceArray3D,
                                                getValueRange)

Hand-written, executable, core Lean only.  Tied to the source by the correspondence check
(harness/c17.cpp vs Driver/C17.lean).

Machine arithmetic is modelled, not idealised:
 * `size_t` is `UInt64` (wrap-around `+ - *`, truncating `/ %`),
 * `int` components are `Int` values (the theorems carry the hypothesis that they are in the
   int range where that matters); every place where the C++ converts an `int` to `size_t`
   is an explicit `toU` (value mod 2^64), every place where a `size_t` is narrowed to `int`
   (the `vec3i(size_t,size_t,size_t)` constructor call in coordsOf, `slice.size()` in
   MultiSliceArray3D::size) is an explicit `toI32` (value mod 2^32, signed),
 * `int % int` is C++ truncated remainder (`Int.tmod`).
Memory: `ActualArray3D::value` is the list `vals` (cell i of the C array = `vals[i]`).
-/
namespace RkVerif.C17

structure V2 (α : Type) where
  x : α
  y : α
deriving DecidableEq, Repr

structure V3 (α : Type) where
  x : α
  y : α
  z : α
deriving DecidableEq, Repr

abbrev U64 := UInt64

/-! ## multidim_index_sequence.h -/

/-- `index_sequence_2D::flatten` : `coords.x + dims.x * coords.y` -/
def flatten2 (dims c : V2 U64) : U64 := c.x + dims.x * c.y

/-- `index_sequence_3D::flatten` : `coords.x + dims.x * (coords.y + dims.y * coords.z)` -/
def flatten3 (dims c : V3 U64) : U64 := c.x + dims.x * (c.y + dims.y * c.z)

/-- `index_sequence_2D::reshape` -/
def reshape2 (dims : V2 U64) (i : U64) : V2 U64 :=
  let y := i / dims.x
  let x := i % dims.x
  ⟨x, y⟩

/-- `index_sequence_3D::reshape` -/
def reshape3 (dims : V3 U64) (i : U64) : V3 U64 :=
  let z := i / (dims.x * dims.y)
  let i := i - (z * dims.x * dims.y)
  let y := i / dims.x
  let x := i % dims.x
  ⟨x, y, z⟩

/-- `total_indices()` = `dims.long_product()` = `size_t(x) * size_t(y)` -/
def total2 (dims : V2 U64) : U64 := dims.x * dims.y
/-- `size_t(x) * size_t(y) * size_t(z)` -/
def total3 (dims : V3 U64) : U64 := dims.x * dims.y * dims.z

/-- `multidim_index_iterator<N>`: the dimensions and `current_index`. `C` is the coordinate
    vector type (`V2 U64` / `V3 U64`). -/
structure Iter (C : Type) where
  dims : C
  cur : U64
deriving DecidableEq, Repr

namespace Iter
variable {C : Type} [DecidableEq C]

/-- `operator==` : same dimensions and same current index -/
def eq (a b : Iter C) : Bool := a.dims == b.dims && a.cur == b.cur
/-- `operator!=` : `!(*this == other)` -/
def ne (a b : Iter C) : Bool := !(eq a b)
/-- `operator++()` : `++current_index`, returns a *copy* built from the new index.
    Result = (new state of `*this`, returned iterator). -/
def preInc (it : Iter C) : Iter C × Iter C :=
  let cur := it.cur + 1
  ({ it with cur := cur }, { dims := it.dims, cur := cur })
/-- `operator++(int)` : `current_index++; return *this` (a reference to the advanced iterator). -/
def postInc (it : Iter C) : Iter C × Iter C :=
  let it' := { it with cur := it.cur + 1 }
  (it', it')
def preDec (it : Iter C) : Iter C × Iter C :=
  let cur := it.cur - 1
  ({ it with cur := cur }, { dims := it.dims, cur := cur })
def jumpTo (it : Iter C) (i : U64) : Iter C := { it with cur := i }
/-- `operator--(int)` : `current_index--; return *this` -/
def postDec (it : Iter C) : Iter C × Iter C :=
  let it' := { it with cur := it.cur - 1 }
  (it', it')
/-- `operator+(size_t)`, `operator-(size_t)`, `operator+(const iterator&)`, `operator-(const iterator&)`:
    all four modify `*this` (`current_index += ...`) and return a reference to it -/
def addN (it : Iter C) (n : U64) : Iter C := { it with cur := it.cur + n }
def subN (it : Iter C) (n : U64) : Iter C := { it with cur := it.cur - n }
def addIt (it o : Iter C) : Iter C := { it with cur := it.cur + o.cur }
def subIt (it o : Iter C) : Iter C := { it with cur := it.cur - o.cur }
end Iter

/-- Termination measure of `iterLoop` below: `++` brings `cur` one step closer to `e`, wrap-around included. -/
theorem iter_measure (e cur : U64) (h : cur ≠ e) : (e - (cur + 1)).toNat < (e - cur).toNat := by
  -- `e - (cur + 1) = (e - cur) - 1`, and `e - cur` is not zero
  have h1 : e - (cur + 1) = e - cur - 1 := by
    rw [UInt64.sub_eq_iff_eq_add, UInt64.add_comm cur, ← UInt64.add_assoc, UInt64.sub_add_cancel,
      UInt64.sub_add_cancel]
  have h0 : 0 < (e - cur).toNat := Nat.pos_of_ne_zero fun h0 => by
    have := UInt64.sub_eq_iff_eq_add.mp (UInt64.toNat_inj.mp (h0.trans UInt64.toNat_zero.symm))
    exact h (this.trans (UInt64.zero_add cur)).symm
  have h2 : (1 : U64) ≤ e - cur := UInt64.le_iff_toNat_le.mpr h0
  rw [h1, UInt64.toNat_sub_of_le _ _ h2]
  exact Nat.sub_lt h0 Nat.one_pos

-- `h` is used in `decreasing_by` only, which the unused-variable linter does not see
set_option linter.unusedVariables false in
/-- The range-based for loop `for (auto c : seq) visit(c);` i.e.
    `for (it = begin(); it != end(); ++it) visit(*it);`
    with both iterators built from the same `dims`; `e` is `end().current_index`,
    `cur` the running iterator's index.  Returns the sequence of visited coordinates.
    (Terminates for every `cur`/`e` because `++` wraps in 64 bits.) -/
def iterLoop {C : Type} [DecidableEq C] (reshape : C → U64 → C) (dims : C) (e cur : U64) : List C :=
  if h : Iter.ne (⟨dims, cur⟩ : Iter C) ⟨dims, e⟩ then
    reshape dims cur :: iterLoop reshape dims e ((Iter.preInc (⟨dims, cur⟩ : Iter C)).1.cur)
  else []
termination_by (e - cur).toNat
decreasing_by
  apply iter_measure
  intro hc
  simp [Iter.ne, Iter.eq] at h
  exact h hc

/-- `for (it = end(); it != begin(); ) { --it; visit(*it); }` — a backward walk with the prefix decrement; `cur` is the
    running iterator's index (begin() has index 0). -/
def backLoop {C : Type} (reshape : C → U64 → C) (dims : C) (cur : U64) : List C :=
  if h : cur ≠ 0 then reshape dims (cur - 1) :: backLoop reshape dims (cur - 1) else []
termination_by cur.toNat
decreasing_by
  have h0 : cur.toNat ≠ 0 := fun h0 => h (UInt64.toNat_inj.mp (by simpa using h0))
  have h1 : (1 : U64) ≤ cur := by rw [UInt64.le_iff_toNat_le]; simp; omega
  rw [UInt64.toNat_sub_of_le _ _ h1]; simp; omega

/-- `for (auto c : index_sequence_2D(dims))` : begin() has index 0, end() has index total_indices() -/
def iterate2 (dims : V2 U64) : List (V2 U64) := iterLoop reshape2 dims (total2 dims) 0
/-- `for (auto c : index_sequence_3D(dims))` -/
def iterate3 (dims : V3 U64) : List (V3 U64) := iterLoop reshape3 dims (total3 dims) 0
/-- the backward walks of the two sequences -/
def backward2 (dims : V2 U64) : List (V2 U64) := backLoop reshape2 dims (total2 dims)
def backward3 (dims : V3 U64) : List (V3 U64) := backLoop reshape3 dims (total3 dims)

/-! ## array3D/for_each.h -/

abbrev V3i := V3 Int

/-- conversion `int → size_t` (sign extension = value mod 2^64) -/
def toU (i : Int) : U64 := UInt64.ofNat (i % 18446744073709551616).toNat

/-- narrowing conversion `size_t → int` (g++: value mod 2^32, two's complement) -/
def toI32 (u : U64) : Int :=
  let r := u.toNat % 4294967296
  if r < 2147483648 then (r : Int) else (r : Int) - 4294967296

/-- `longProduct` : `dims.x * size_t(dims.y) * dims.z` (all three promoted to size_t) -/
def longProduct (dims : V3i) : U64 := toU dims.x * toU dims.y * toU dims.z

/-- `longIndex` : `idx.x + size_t(dims.x) * (idx.y + size_t(dims.y) * idx.z)` -/
def longIndex (idx dims : V3i) : U64 :=
  toU idx.x + toU dims.x * (toU idx.y + toU dims.y * toU idx.z)

/-- `coordsOf` : `vec3i(idx % dims.x, (idx / dims.x) % dims.y, (idx / dims.x) / dims.y)` -/
def coordsOf (idx : U64) (dims : V3i) : V3i :=
  ⟨toI32 (idx % toU dims.x), toI32 ((idx / toU dims.x) % toU dims.y), toI32 ((idx / toU dims.x) / toU dims.y)⟩

/-- `for (int i = lo; i < hi; i++) body(i)`, the bodies' visit lists concatenated. -/
def loopI {α : Type} (lo hi : Int) (body : Int → List α) : List α :=
  if lo < hi then body lo ++ loopI (lo + 1) hi body else []
termination_by (hi - lo).toNat
decreasing_by omega

/-- `for_each(lower, upper, functor)`: the sequence of arguments the functor is called with
    (z outermost, x innermost). -/
def forEach (lower upper : V3i) : List V3i :=
  loopI lower.z upper.z fun iz =>
    loopI lower.y upper.y fun iy =>
      loopI lower.x upper.x fun ix => [⟨ix, iy, iz⟩]

/-- `for_each(size, functor)` = `for_each({0,0,0}, size, functor)` -/
def forEachSize (size : V3i) : List V3i := forEach ⟨0, 0, 0⟩ size

/-! ## array3D/Array3D.h -/

namespace V3i
def add (a b : V3i) : V3i := ⟨a.x + b.x, a.y + b.y, a.z + b.z⟩
def sub (a b : V3i) : V3i := ⟨a.x - b.x, a.y - b.y, a.z - b.z⟩
/-- component-wise C++ `%` on ints (truncated) -/
def tmod (a b : V3i) : V3i := ⟨a.x.tmod b.x, a.y.tmod b.y, a.z.tmod b.z⟩
def min (a b : V3i) : V3i := ⟨Min.min a.x b.x, Min.min a.y b.y, Min.min a.z b.z⟩
def max (a b : V3i) : V3i := ⟨Max.max a.x b.x, Max.max a.y b.y, Max.max a.z b.z⟩
def splat (v : Int) : V3i := ⟨v, v, v⟩
end V3i

/-- The abstract interface `Array3D<value_t>` (the three virtual functions). -/
structure Array3D (V : Type) where
  size : V3i
  get : V3i → V
  numElements : U64

/-- `ActualArray3D<int>` : `dims` and the cell memory `value[0 .. n)`. -/
structure Actual where
  dims : V3i
  vals : List Int
deriving Repr

namespace Actual

def size (a : Actual) : V3i := a.dims

/-- the clamped location used by `get`: `max(vec3i(0), min(_where, dims - vec3i(1)))` -/
def clampWhere (a : Actual) (w : V3i) : V3i :=
  V3i.max (V3i.splat 0) (V3i.min w (V3i.sub a.dims (V3i.splat 1)))

/-- `where.x + size_t(dims.x) * (where.y + size_t(dims.y) * (where.z))` of the clamped location -/
def getIndex (a : Actual) (w : V3i) : U64 :=
  let w := a.clampWhere w
  toU w.x + toU a.dims.x * (toU w.y + toU a.dims.y * toU w.z)

/-- `ActualArray3D::get` (reading outside `value[]` is undefined in C++; the model then yields 0) -/
def get (a : Actual) (w : V3i) : Int := a.vals.getD (a.getIndex w).toNat 0

/-- `ActualArray3D::indexOf` : `pos.x + size_t(dims.x) * (pos.y + size_t(dims.y) * pos.z)` -/
def indexOf (a : Actual) (pos : V3i) : U64 :=
  toU pos.x + toU a.dims.x * (toU pos.y + toU a.dims.y * toU pos.z)

/-- `size_t(dims.x) * size_t(dims.y) * size_t(dims.z)` -/
def numElements (a : Actual) : U64 := toU a.dims.x * toU a.dims.y * toU a.dims.z

/-- `ActualArray3D::set` : `value[longIndex(where, size())] = t` (no clamping) -/
def set (a : Actual) (w : V3i) (t : Int) : Actual :=
  { a with vals := a.vals.set (longIndex w a.size).toNat t }

/-- `ActualArray3D::clear` : `for_each(size(), [&](idx){ set(idx, t); })` -/
def clear (a : Actual) (t : Int) : Actual :=
  (forEachSize a.size).foldl (fun a idx => a.set idx t) a

/-- the constructor with own memory allocates `longProduct(dims)` cells -/
def allocCount (dims : V3i) : U64 := longProduct dims

def toArray3D (a : Actual) : Array3D Int :=
  { size := a.size, get := a.get, numElements := a.numElements }

end Actual

/-- `IndexShiftedArray3D` : `get(where) = actual->get((where + size() + shift) % size())` -/
def shifted {V : Type} (actual : Array3D V) (shift : V3i) : Array3D V :=
  { size := actual.size
    get := fun w => actual.get (V3i.tmod (V3i.add (V3i.add w actual.size) shift) actual.size)
    numElements := actual.numElements }

/-- `Array3DAccessor<in_t,out_t>` : `get(where) = (out_t)actual->get(where)` -/
def accessor {A B : Type} (cast : A → B) (actual : Array3D A) : Array3D B :=
  { size := actual.size
    get := fun w => cast (actual.get w)
    numElements := actual.numElements }

/-- `SubBoxArray3D` : `size() = clipBox.size() = upper - lower`,
    `get(where) = actual->get(where + clipBox.lower)` -/
def subBox {V : Type} (actual : Array3D V) (lower upper : V3i) : Array3D V :=
  let dims := V3i.sub upper lower
  { size := dims
    get := fun w => actual.get (V3i.add w lower)
    numElements := toU dims.x * toU dims.y * toU dims.z }

/-- `clamp(x, lo, hi) = max(min(x, hi), lo)` (rkmath.h) -/
def clampI (x lo hi : Int) : Int := Max.max (Min.min x hi) lo

/-- `MultiSliceArray3D` over the non-empty slice vector `s0 :: rest`:
    `size() = (slice[0]->size().x, slice[0]->size().y, slice.size())`,
    `get(where) = slice[clamp(where.z, 0, (int)slice.size()-1)]->get(vec3i(where.x, where.y, 0))` -/
def multiSlice {V : Type} (s0 : Array3D V) (rest : List (Array3D V)) : Array3D V :=
  let slices := s0 :: rest
  let n : U64 := UInt64.ofNat slices.length
  { size := ⟨s0.size.x, s0.size.y, toI32 n⟩
    get := fun w =>
      let k := clampI w.z 0 (toI32 n - 1)
      (slices.getD (toU k).toNat s0).get ⟨w.x, w.y, 0⟩
    numElements := s0.numElements * n }

/-- `range_t<int>::extend(t)` : `lower = min(lower,t); upper = max(upper,t)` -/
def extend (r : Int × Int) (t : Int) : Int × Int := (Min.min r.1 t, Max.max r.2 t)

/-- `Array3D::getValueRange(begin, end)` :
    `range_t v = get(begin); for_each(begin, end, [&](idx){ v.extend(get(idx)); }); return v;` -/
def getValueRange (a : Array3D Int) (b e : V3i) : Int × Int :=
  (forEach b e).foldl (fun v idx => extend v (a.get idx)) (a.get b, a.get b)

/-- `getValueRange()` = `getValueRange(vec3i(0), size())` -/
def getValueRangeAll (a : Array3D Int) : Int × Int := getValueRange a (V3i.splat 0) a.size

end RkVerif.C17
